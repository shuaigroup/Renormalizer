/- `GaussRat` is a field: the generic theorems (stated over any `CommRing`/`Field`) apply to the
   scalar type the drivers actually compute with. -/
import RenoVerif.Model.GaussRat
import Mathlib.Algebra.Field.Basic
import Mathlib.Algebra.Order.Field.Basic
import Mathlib.Algebra.Order.Ring.Rat
import Mathlib.Tactic.Ring

namespace RenoVerif.GaussRat

theorem normSq_pos {a : GaussRat} (h : a ≠ 0) : 0 < a.normSq := by
  refine lt_of_le_of_ne (add_nonneg (mul_self_nonneg _) (mul_self_nonneg _)) fun h0 => h ?_
  obtain ⟨hr, hi⟩ := mul_self_add_mul_self_eq_zero.mp h0.symm
  exact GaussRat.ext hr hi

instance : CommRing GaussRat where
  add_assoc a b c := GaussRat.ext (add_assoc _ _ _) (add_assoc _ _ _)
  zero_add a := GaussRat.ext (zero_add _) (zero_add _)
  add_zero a := GaussRat.ext (add_zero _) (add_zero _)
  add_comm a b := GaussRat.ext (add_comm _ _) (add_comm _ _)
  neg_add_cancel a := GaussRat.ext (neg_add_cancel _) (neg_add_cancel _)
  sub_eq_add_neg a b := GaussRat.ext (sub_eq_add_neg _ _) (sub_eq_add_neg _ _)
  mul_assoc a b c := by ext <;> simp only [mul_re, mul_im] <;> ring
  one_mul a := by ext <;> simp
  mul_one a := by ext <;> simp
  left_distrib a b c := by ext <;> simp only [mul_re, mul_im, add_re, add_im] <;> ring
  right_distrib a b c := by ext <;> simp only [mul_re, mul_im, add_re, add_im] <;> ring
  mul_comm a b := by ext <;> simp only [mul_re, mul_im] <;> ring
  zero_mul a := by ext <;> simp
  mul_zero a := by ext <;> simp
  nsmul := nsmulRec
  zsmul := zsmulRec

instance : Field GaussRat where
  exists_pair_ne := ⟨0, 1, fun h => zero_ne_one (congrArg GaussRat.re h)⟩
  mul_inv_cancel a h := by
    ext
    · rw [mul_re, inv_re, inv_im, one_re, mul_div_assoc', mul_div_assoc', ← sub_div, mul_neg, sub_neg_eq_add]
      exact div_self (normSq_pos h).ne'
    · rw [mul_im, inv_re, inv_im, one_im, mul_div_assoc', mul_div_assoc', ← add_div, mul_neg, mul_comm a.im,
        neg_add_cancel, zero_div]
  inv_zero := GaussRat.ext (zero_div _) (by rw [inv_im, zero_im, neg_zero, zero_div])
  nnqsmul := _
  qsmul := _

/-- complex conjugation as a ring homomorphism -/
def conjHom : GaussRat →+* GaussRat where
  toFun := GaussRat.conj
  map_one' := GaussRat.ext rfl neg_zero
  map_mul' a b := by
    ext
    · simp only [GaussRat.conj, mul_re, neg_mul_neg]
    · simp only [GaussRat.conj, mul_im, mul_neg, neg_mul, neg_add]
  map_zero' := GaussRat.ext rfl neg_zero
  map_add' a b := GaussRat.ext rfl (neg_add _ _)

end RenoVerif.GaussRat
