/- S5 — quantum-number discipline on chains: the block-sparsity invariant, the sector theorem,
   and preservation by the structural operations.  Labels live in any additive commutative group
   `Q` (ℤ, ℤ², … — one or several conserved quantum numbers), in the all-left reading. -/
import RenoVerif.Lemmas.ChainDot
import Mathlib.Tactic.Abel

namespace RenoVerif.Chain
open Matrix

variable {R : Type} [CommRing R] {Q : Type} [AddCommGroup Q]

/-- every non-zero entry `A[l,σ,r]` connects labels with `qL l + σqn σ = qR r` -/
def SiteInv {d l m : ℕ} (A : Site R d l m) (qL : Fin l → Q) (sq : Fin d → Q) (qR : Fin m → Q) : Prop :=
  ∀ s i j, A s i j ≠ 0 → qL i + sq s = qR j

/-- physical quantum numbers of every site -/
def SigmaQ (Q : Type) : List ℕ → Type
  | [] => Unit
  | d :: ds => (Fin d → Q) × SigmaQ Q ds

/-- total quantum number of a configuration -/
def totalQ : {ds : List ℕ} → SigmaQ Q ds → Cfg ds → Q
  | [], _, _ => 0
  | _ :: _, (sq, sqs), (s, c) => sq s + totalQ sqs c

/-- the stored labels describe the non-zero blocks of every tensor -/
inductive ChainInv : {ds : List ℕ} → {l r : ℕ} → Chain R ds l r → (Fin l → Q) → SigmaQ Q ds → (Fin r → Q) → Prop
  | nil {l : ℕ} (q : Fin l → Q) : ChainInv (.nil l) q () q
  | cons {d l m r : ℕ} {ds : List ℕ} {A : Site R d l m} {rest : Chain R ds m r}
      {qL : Fin l → Q} {qM : Fin m → Q} {qR : Fin r → Q} {sq : Fin d → Q} {sqs : SigmaQ Q ds} :
      SiteInv A qL sq qM → ChainInv rest qM sqs qR → ChainInv (.cons A rest) qL (sq, sqs) qR

/-- **sector theorem**: a non-zero amplitude forces the configuration's total quantum number to
    equal the difference of the boundary labels (for a closed chain: `0 + Σσqn = qntot`). -/
theorem sector_of_inv : ∀ {ds : List ℕ} {l r : ℕ} {c : Chain R ds l r} {qL : Fin l → Q} {sqs : SigmaQ Q ds}
    {qR : Fin r → Q}, ChainInv c qL sqs qR → ∀ (cfg : Cfg ds) (i : Fin l) (j : Fin r),
    amp c cfg i j ≠ 0 → qL i + totalQ sqs cfg = qR j := by
  intro ds l r c qL sqs qR h
  induction h with
  | nil q =>
    intro cfg i j hne
    have hij : i = j := by_contra fun hij => hne (Matrix.one_apply_ne hij)
    rw [← hij]
    exact add_zero (q i)
  | cons hA _ ih =>
    intro cfg i j hne
    obtain ⟨s, cfg⟩ := cfg
    simp only [amp, Matrix.mul_apply] at hne
    obtain ⟨k, _, hk⟩ := Finset.exists_ne_zero_of_sum_ne_zero hne
    rw [totalQ, ← add_assoc, hA s i k (left_ne_zero_of_mul hk), ih cfg k j (right_ne_zero_of_mul hk)]

/-- closed chains: the amplitude vanishes outside the sector `qntot` -/
theorem zero_outside_sector {ds : List ℕ} (c : Chain R ds 1 1) (sqs : SigmaQ Q ds) (qntot : Q)
    (h : ChainInv c (fun _ => 0) sqs (fun _ => qntot)) (cfg : Cfg ds) (hq : totalQ sqs cfg ≠ qntot) :
    amp c cfg 0 0 = 0 := by
  by_contra hne
  have e := sector_of_inv h cfg 0 0 hne
  rw [zero_add] at e
  exact hq e

theorem SiteInv.mono {d l m : ℕ} {A B : Site R d l m} {qL : Fin l → Q} {sq : Fin d → Q} {qR : Fin m → Q}
    (h : SiteInv A qL sq qR) (hB : ∀ s i j, A s i j = 0 → B s i j = 0) : SiteInv B qL sq qR :=
  fun s i j hne => h s i j fun h0 => hne (hB s i j h0)

/-- labels of a block-diagonal sum: concatenation -/
def catQ {l l' : ℕ} (q : Fin l → Q) (q' : Fin l' → Q) : Fin (l + l') → Q :=
  fun i => Sum.elim q q' (finSumFinEquiv.symm i)

theorem siteInv_blk {d l m l' m' : ℕ} {A : Site R d l m} {B : Site R d l' m'}
    {qL : Fin l → Q} {qL' : Fin l' → Q} {sq : Fin d → Q} {qR : Fin m → Q} {qR' : Fin m' → Q}
    (hA : SiteInv A qL sq qR) (hB : SiteInv B qL' sq qR') :
    SiteInv (fun s => blk (A s) (B s)) (catQ qL qL') sq (catQ qR qR') := by
  intro s i j
  obtain ⟨i, rfl⟩ := finSumFinEquiv.surjective i
  obtain ⟨j, rfl⟩ := finSumFinEquiv.surjective j
  simp only [blk, submatrix_apply, catQ, Equiv.symm_apply_apply]
  rcases i with a | a <;> rcases j with b | b
  · exact hA s a b
  · exact fun h => absurd rfl h  -- an entry of a zero block
  · exact fun h => absurd rfl h
  · exact hB s a b

/-- **add** keeps the invariant with concatenated labels (both operands in the same reading) -/
theorem chainInv_addC : ∀ {ds : List ℕ} {l r l' r' : ℕ} {a : Chain R ds l r} {b : Chain R ds l' r'}
    {qL : Fin l → Q} {qR : Fin r → Q} {qL' : Fin l' → Q} {qR' : Fin r' → Q} {sqs : SigmaQ Q ds},
    ChainInv a qL sqs qR → ChainInv b qL' sqs qR' → ChainInv (addC a b) (catQ qL qL') sqs (catQ qR qR') := by
  intro ds l r l' r' a b qL qR qL' qR' sqs ha
  induction ha generalizing l' r' qL' qR' with
  | nil q =>
    intro hb
    cases hb with
    | nil q' => exact ChainInv.nil _
  | cons hA _ ih =>
    intro hb
    cases hb with
    | cons hB hrest =>
      exact ChainInv.cons (siteInv_blk hA hB) (ih hrest)

/-- **scale** -/
theorem chainInv_scaleAt : ∀ {ds : List ℕ} {l r : ℕ} {a : Chain R ds l r} {qL : Fin l → Q} {qR : Fin r → Q}
    {sqs : SigmaQ Q ds} (k : ℕ) (x : R), ChainInv a qL sqs qR → ChainInv (scaleAt k x a) qL sqs qR := by
  intro ds l r a qL qR sqs k x h
  induction h generalizing k with
  | nil q =>
    rw [scaleAt]
    exact ChainInv.nil q
  | cons hA hrest ih =>
    cases k with
    | zero => exact ChainInv.cons (hA.mono fun s i j h0 => by rw [Matrix.smul_apply, smul_eq_mul, h0, mul_zero]) hrest
    | succ k => exact ChainInv.cons hA (ih k)

/-- **conj** (labels unchanged: conjugation of a state keeps the block pattern) -/
theorem chainInv_mapC (f : R →+* R) : ∀ {ds : List ℕ} {l r : ℕ} {a : Chain R ds l r} {qL : Fin l → Q}
    {qR : Fin r → Q} {sqs : SigmaQ Q ds}, ChainInv a qL sqs qR → ChainInv (mapC f a) qL sqs qR := by
  intro ds l r a qL qR sqs h
  induction h with
  | nil q => exact ChainInv.nil q
  | cons hA _ ih => exact ChainInv.cons (hA.mono fun s i j h0 => by rw [Matrix.map_apply, h0, map_zero]) ih

/-! operators: a non-zero entry `W[a,σ,σ',b]` satisfies `qa a + (σqn σ − σqn σ') = qb b` -/
def OpSiteInv {d l m : ℕ} (W : OpSite R d l m) (qa : Fin l → Q) (sq : Fin d → Q) (qb : Fin m → Q) : Prop :=
  ∀ s t i j, W s t i j ≠ 0 → qa i + (sq s - sq t) = qb j

inductive OpChainInv : {ds : List ℕ} → {l r : ℕ} → OpChain R ds l r → (Fin l → Q) → SigmaQ Q ds → (Fin r → Q) → Prop
  | nil {l : ℕ} (q : Fin l → Q) : OpChainInv (.nil l) q () q
  | cons {d l m r : ℕ} {ds : List ℕ} {W : OpSite R d l m} {rest : OpChain R ds m r}
      {qa : Fin l → Q} {qm : Fin m → Q} {qb : Fin r → Q} {sq : Fin d → Q} {sqs : SigmaQ Q ds} :
      OpSiteInv W qa sq qm → OpChainInv rest qm sqs qb → OpChainInv (.cons W rest) qa (sq, sqs) qb

/-- labels of the Kronecker bond of `W·ψ`: sums -/
def krQ {a l : ℕ} (qa : Fin a → Q) (q : Fin l → Q) : Fin (a * l) → Q :=
  fun i => qa (finProdFinEquiv.symm i).1 + q (finProdFinEquiv.symm i).2

theorem siteInv_apply {d a b l m : ℕ} {W : OpSite R d a b} {A : Site R d l m}
    {qa : Fin a → Q} {qb : Fin b → Q} {qL : Fin l → Q} {qR : Fin m → Q} {sq : Fin d → Q}
    (hW : OpSiteInv W qa sq qb) (hA : SiteInv A qL sq qR) :
    SiteInv (fun s => ∑ t, kr (W s t) (A t)) (krQ qa qL) sq (krQ qb qR) := by
  intro s i j hne
  simp only [Matrix.sum_apply] at hne
  obtain ⟨t, _, ht⟩ := Finset.exists_ne_zero_of_sum_ne_zero hne
  simp only [kr, submatrix_apply, kroneckerMap_apply] at ht
  have h1 := hW s t _ _ (left_ne_zero_of_mul ht)
  have h2 := hA t _ _ (right_ne_zero_of_mul ht)
  simp only [krQ]
  rw [← h1, ← h2]
  abel

/-- **apply**: an operator whose labels run from `qa` to `qb` maps a state with labels
    `qL → qR` to one with labels `qa+qL → qb+qR`: the sector is shifted by the operator's charge -/
theorem chainInv_applyC : ∀ {ds : List ℕ} {a b l r : ℕ} {w : OpChain R ds a b} {x : Chain R ds l r}
    {qa : Fin a → Q} {qb : Fin b → Q} {qL : Fin l → Q} {qR : Fin r → Q} {sqs : SigmaQ Q ds},
    OpChainInv w qa sqs qb → ChainInv x qL sqs qR → ChainInv (applyC w x) (krQ qa qL) sqs (krQ qb qR) := by
  intro ds a b l r w x qa qb qL qR sqs hw
  induction hw generalizing l r qL qR with
  | nil q =>
    intro hx
    cases hx with
    | nil q' => exact ChainInv.nil _
  | cons hW _ ih =>
    intro hx
    cases hx with
    | cons hA hrest => exact ChainInv.cons (siteInv_apply hW hA) (ih hrest)

/-- a re-factorisation whose new tensors respect labels `qnew` on the new bond keeps the
    invariant (the kernel contract of the symmetry-blocked QR/SVD, C18) -/
theorem chainInv_replace2 {d e l m' k r : ℕ} {ds : List ℕ} (A' : Site R d l m') (B' : Site R e m' k)
    (rest : Chain R ds k r) (qL : Fin l → Q) (qnew : Fin m' → Q) (qK : Fin k → Q) (qR : Fin r → Q)
    (sq : Fin d → Q) (sq' : Fin e → Q) (sqs : SigmaQ Q ds)
    (hA : SiteInv A' qL sq qnew) (hB : SiteInv B' qnew sq' qK) (hrest : ChainInv rest qK sqs qR) :
    ChainInv (.cons A' (.cons B' rest)) qL (sq, (sq', sqs)) qR :=
  ChainInv.cons hA (ChainInv.cons hB hrest)

/-- masking: zeroing every entry that violates the label equation makes the site invariant -/
theorem siteInv_mask [DecidableEq Q] {d l m : ℕ} (A : Site R d l m) (qL : Fin l → Q) (sq : Fin d → Q) (qR : Fin m → Q) :
    SiteInv (fun s => Matrix.of fun i j => if qL i + sq s = qR j then A s i j else 0) qL sq qR :=
  fun _ _ _ hne => by_contra fun h => hne (if_neg h)

end RenoVerif.Chain
