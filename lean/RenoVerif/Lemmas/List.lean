/- General list facts that the property files use (no Mathlib: C20 loads nothing else). -/
import Batteries.Data.List.Basic

namespace RenoVerif

theorem getD_elim {α : Type _} {P : α → Prop} {l : List α} {d : α} (hl : ∀ x ∈ l, P x) (hd : P d) (i : Nat) :
    P (l.getD i d) := by
  rw [List.getD_eq_getElem?_getD]
  cases h : l[i]? with
  | none => exact hd
  | some x => exact hl x (List.mem_of_getElem? h)

theorem lt_of_getD_ne {α : Type _} {l : List α} {i : Nat} {d : α} (h : l.getD i d ≠ d) : i < l.length :=
  Nat.lt_of_not_le fun hle => h (by rw [List.getD_eq_getElem?_getD, List.getElem?_eq_none hle]; rfl)

theorem getD_map {α β : Type _} (f : α → β) (l : List α) (d : α) (i : Nat) :
    (l.map f).getD i (f d) = f (l.getD i d) := by
  rw [List.getD_eq_getElem?_getD, List.getD_eq_getElem?_getD, List.getElem?_map, Option.getD_map]

theorem getD_snoc {α : Type _} (l : List α) (x d : α) (c : Nat) :
    (l ++ [x]).getD c d = if c < l.length then l.getD c d else if c = l.length then x else d := by
  rw [List.getD_eq_getElem?_getD]
  split
  · next h => rw [List.getElem?_append_left h, List.getD_eq_getElem?_getD]
  · next h =>
    split
    · next h2 => rw [h2, List.getElem?_concat_length]; rfl
    · next h2 =>
      rw [List.getElem?_eq_none]
      · rfl
      · exact List.length_append ▸ Nat.lt_of_le_of_ne (Nat.le_of_not_lt h) (Ne.symm h2)

theorem forall₂_getD {α β : Type _} {P : α → β → Prop} {l : List α} {l' : List β} (h : List.Forall₂ P l l')
    {d : α} {d' : β} (hd : P d d') : ∀ k, P (l.getD k d) (l'.getD k d') := by
  induction h with
  | nil => exact fun _ => hd
  | cons hx _ ih =>
    intro k
    cases k with
    | zero => exact hx
    | succ k => exact ih k

/-- the fold of `SymTree.expandTree` (and of `subsOf`, `autoTree` in Props/C02Auto): one entry more per element -/
theorem length_foldl_snoc {α β : Type _} (g : List β → α → β) (l : List α) : ∀ init : List β,
    (l.foldl (fun acc x => acc ++ [g acc x]) init).length = init.length + l.length := by
  induction l with
  | nil => exact fun _ => rfl
  | cons x l ih =>
    intro init
    rw [List.foldl_cons, ih, List.length_append, List.length_singleton, List.length_cons, Nat.add_assoc, Nat.add_comm 1]

end RenoVerif
