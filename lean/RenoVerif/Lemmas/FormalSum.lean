/- S1 lemmas: the executable equivalence test of formal sums is sound for every interpretation
   of the keys in every module. -/
import RenoVerif.Model.FormalSum
import Mathlib.Algebra.BigOperators.Group.Finset.Basic
import Mathlib.Algebra.BigOperators.Group.List.Basic
import Mathlib.Algebra.Module.BigOperators
import Mathlib.Algebra.Module.LinearMap.Defs
import Mathlib.Data.Finset.Basic

namespace RenoVerif.FS

variable {K R M : Type} [DecidableEq K] [Ring R] [AddCommGroup M] [Module R M]

/-- value of a formal sum under an interpretation `φ` of the keys -/
def evalFS (φ : K → M) (s : FSum K R) : M := (s.map fun p => p.2 • φ p.1).sum

@[simp] theorem evalFS_nil (φ : K → M) : evalFS φ ([] : FSum K R) = 0 := rfl
omit [DecidableEq K] in
@[simp] theorem evalFS_cons (φ : K → M) (p : K × R) (s : FSum K R) :
    evalFS φ (p :: s) = p.2 • φ p.1 + evalFS φ s := List.sum_cons
omit [DecidableEq K] in
theorem evalFS_append (φ : K → M) (s t : FSum K R) :
    evalFS φ (s ++ t) = evalFS φ s + evalFS φ t := by
  rw [evalFS, List.map_append, List.sum_append]; rfl

@[simp] theorem coeff_nil (k : K) : coeff ([] : FSum K R) k = 0 := rfl
theorem coeff_cons (p : K × R) (s : FSum K R) (k : K) :
    coeff (p :: s) k = (if p.1 = k then p.2 else 0) + coeff s k := by
  rw [coeff, List.foldr_cons, ← coeff]
  split
  · rfl
  · exact (zero_add _).symm

/-- a formal sum is the sum over any finite key set containing its keys of `coeff • φ` -/
theorem evalFS_eq_sum (φ : K → M) (s : FSum K R) (S : Finset K) (hS : ∀ k ∈ keys s, k ∈ S) :
    evalFS φ s = ∑ k ∈ S, coeff s k • φ k := by
  induction s with
  | nil => exact (Finset.sum_eq_zero fun k _ => zero_smul R (φ k)).symm
  | cons p s ih =>
    rw [evalFS_cons, ih fun k hk => hS k (List.mem_cons_of_mem _ hk)]
    simp only [coeff_cons, add_smul, Finset.sum_add_distrib, ite_smul, zero_smul, Finset.sum_ite_eq,
      hS p.1 List.mem_cons_self, if_true]

/-- **soundness of `eqv`** -/
theorem eqv_sound [DecidableEq R] (s t : FSum K R) (h : eqv s t = true) (φ : K → M) :
    evalFS φ s = evalFS φ t := by
  rw [evalFS_eq_sum φ s (keys s ++ keys t).toFinset fun k hk => List.mem_toFinset.2 (List.mem_append_left _ hk),
    evalFS_eq_sum φ t (keys s ++ keys t).toFinset fun k hk => List.mem_toFinset.2 (List.mem_append_right _ hk)]
  exact Finset.sum_congr rfl fun k hk => by
    rw [eq_of_beq (List.all_eq_true.1 h k (List.mem_toFinset.1 hk))]

variable {M' : Type} [AddCommGroup M'] [Module R M']

omit [DecidableEq K] in
/-- the two ways the expansions extend the rows of a sum are of this form: one more key at the end (`Den.snoc`),
    a fixed row in front (`SymTree.fsMul`) -/
theorem evalFS_map_linear {K' : Type} (f : K → K') (c : R) (L : M →ₗ[R] M') {φ : K → M} {φ' : K' → M'} {s : FSum K R}
    (h : ∀ p ∈ s, φ' (f p.1) = L (φ p.1)) : evalFS φ' (s.map fun p => (f p.1, c * p.2)) = c • L (evalFS φ s) := by
  induction s with
  | nil => exact (smul_zero c).symm.trans (congrArg _ L.map_zero.symm)
  | cons p s ih =>
    rw [List.map_cons, evalFS_cons, evalFS_cons, ih fun q hq => h q (List.mem_cons_of_mem _ hq),
      h p List.mem_cons_self, L.map_add, L.map_smul, smul_add, mul_smul]

omit [DecidableEq K] in
theorem evalFS_scale (φ : K → M) (c : R) (s : FSum K R) : evalFS φ (scale c s) = c • evalFS φ s :=
  evalFS_map_linear id c LinearMap.id fun _ _ => rfl

omit [DecidableEq K] in
theorem evalFS_map_key {K' : Type} (φ : K' → M) (f : K → K') (s : FSum K R) :
    evalFS φ (s.map fun p => (f p.1, p.2)) = evalFS (fun k => φ (f k)) s := by
  rw [evalFS, evalFS, List.map_map]; rfl

section Den
variable {κ : Type} {φ : List κ → M} {n : Nat} {e e' : FSum (List κ) R} {a a' : M}

/-- a formal sum over rows (lists of keys): every row of `e` has length `n`, and `e` denotes `a` under `φ`.
    Interpretations of rows go position by position (`SymMpo.val`, `SymTree.rowVal`) and split `φ (r ++ r')` only for
    `r` of the right length, so the length travels with the value. -/
def Den (φ : List κ → M) (n : Nat) (e : FSum (List κ) R) (a : M) : Prop :=
  (∀ p ∈ e, p.1.length = n) ∧ evalFS φ e = a

theorem Den.nil : Den φ n ([] : FSum (List κ) R) 0 := ⟨nofun, rfl⟩

theorem Den.one : Den φ 0 ([([], 1)] : FSum (List κ) R) (φ []) :=
  ⟨List.forall_mem_singleton.2 rfl, by rw [evalFS_cons, one_smul]; exact add_zero (φ [])⟩

theorem Den.append (h : Den φ n e a) (h' : Den φ n e' a') : Den φ n (e ++ e') (a + a') :=
  ⟨fun p hp => (List.mem_append.1 hp).elim (h.1 p) (h'.1 p), by rw [evalFS_append, h.2, h'.2]⟩

theorem Den.flatMap {T : Type} {o : List T} {f : T → FSum (List κ) R} {g : T → M}
    (h : ∀ t ∈ o, Den φ n (f t) (g t)) : Den φ n (o.flatMap f) (o.map g).sum := by
  induction o with
  | nil => exact Den.nil
  | cons t o ih =>
    rw [List.flatMap_cons, List.map_cons, List.sum_cons]
    exact (h t List.mem_cons_self).append (ih fun t ht => h t (List.mem_cons_of_mem _ ht))

theorem Den.snoc {φ' : List κ → M'} (L : M →ₗ[R] M') (x : κ) (c : R)
    (hφ : ∀ r, r.length = n → φ' (r ++ [x]) = L (φ r)) (h : Den φ n e a) :
    Den φ' (n + 1) (e.map fun p => (p.1 ++ [x], c * p.2)) (c • L a) := by
  refine ⟨fun q hq => ?_, ?_⟩
  · obtain ⟨p, hp, rfl⟩ := List.mem_map.1 hq
    rw [List.length_append, h.1 p hp, List.length_singleton]
  · rw [← h.2]
    exact evalFS_map_linear (· ++ [x]) c L fun p hp => hφ p.1 (h.1 p hp)

theorem Den.map_eq {E : List (FSum (List κ) R)} {D : List M} (h : List.Forall₂ (Den φ n) E D) :
    E.map (evalFS φ) = D := by
  induction h with
  | nil => rfl
  | cons h _ ih => rw [List.map_cons, h.2, ih]

end Den
end RenoVerif.FS
