/- S3 lemmas: amplitudes of sums, scalar multiples, conjugates and re-gauged chains. -/
import RenoVerif.Model.Chain

namespace RenoVerif.Chain
open Matrix

variable {R : Type} [CommRing R]

theorem blk_mul {l m r l' m' r' : ℕ} (A : Matrix (Fin l) (Fin m) R) (B : Matrix (Fin m) (Fin r) R)
    (A' : Matrix (Fin l') (Fin m') R) (B' : Matrix (Fin m') (Fin r') R) :
    blk A A' * blk B B' = blk (A * B) (A' * B') := by
  unfold blk
  rw [Matrix.submatrix_mul_equiv, fromBlocks_multiply]
  simp only [Matrix.mul_zero, Matrix.zero_mul, add_zero, zero_add]

theorem blk_one (l l' : ℕ) : blk (1 : Matrix (Fin l) (Fin l) R) (1 : Matrix (Fin l') (Fin l') R) = 1 := by
  unfold blk
  rw [fromBlocks_one, submatrix_one_equiv]

theorem amp_addC : ∀ {ds : List ℕ} {l r l' r' : ℕ} (a : Chain R ds l r) (b : Chain R ds l' r') (c : Cfg ds),
    amp (addC a b) c = blk (amp a c) (amp b c) := by
  intro ds l r l' r' a b c
  fun_induction addC a b
  next l l' => exact (blk_one l l').symm
  next A ra B rb ih =>
    obtain ⟨s, c⟩ := c
    rw [amp, amp, amp, ih, blk_mul]

theorem amp_lmul {d : ℕ} {ds : List ℕ} {l l' r : ℕ} (U : Matrix (Fin l') (Fin l) R)
    (a : Chain R (d :: ds) l r) (c : Cfg (d :: ds)) : amp (lmul U a) c = U * amp a c := by
  cases a with
  | cons A rest => exact Matrix.mul_assoc U (A c.1) (amp rest c.2)

theorem amp_rmul : ∀ {d : ℕ} {ds : List ℕ} {l r r' : ℕ} (a : Chain R (d :: ds) l r)
    (V : Matrix (Fin r) (Fin r') R) (c : Cfg (d :: ds)), amp (rmul a V) c = amp a c * V := by
  intro d ds l r r' a V c
  fun_induction rmul a V
  next A V =>
    obtain ⟨s, c⟩ := c
    simp only [amp, Matrix.mul_one]
  next A rest V ih =>
    obtain ⟨s, c⟩ := c
    rw [amp, amp, ih, Matrix.mul_assoc]

theorem onesRow_blk_onesCol (x y : Matrix (Fin 1) (Fin 1) R) :
    onesRow 2 * blk x y * onesCol 2 = x + y := by
  ext i j
  rw [Subsingleton.elim i 0, Subsingleton.elim j 0]
  simp only [Matrix.mul_apply, onesRow, onesCol, one_mul, mul_one, Fin.sum_univ_succ, Fin.sum_univ_zero, add_zero]
  -- the four entries of `blk x y`, by computation
  show x 0 0 + 0 + (0 + y 0 0) = x 0 0 + y 0 0
  rw [add_zero, zero_add]

/-- **add**: the closed chain built by `MatrixProduct.add` has amplitudes `amp a + amp b` -/
theorem amp_addClosed {d : ℕ} {ds : List ℕ} (a b : Chain R (d :: ds) 1 1) (c : Cfg (d :: ds)) :
    amp (addClosed a b) c = amp a c + amp b c := by
  unfold addClosed
  rw [amp_rmul, amp_lmul, amp_addC, onesRow_blk_onesCol]

/-- length of a chain -/
def len : {ds : List ℕ} → {l r : ℕ} → Chain R ds l r → ℕ
  | _, _, _, .nil _ => 0
  | _, _, _, .cons _ rest => 1 + len rest

/-- **scale**: multiplying the tensor of any one site by `x` multiplies every amplitude by `x` -/
theorem amp_scaleAt : ∀ {ds : List ℕ} {l r : ℕ} (k : ℕ) (x : R) (a : Chain R ds l r) (c : Cfg ds),
    k < ds.length → amp (scaleAt k x a) c = x • amp a c := by
  intro ds l r k x a c h
  fun_induction scaleAt k x a
  next => exact absurd h (Nat.not_lt_zero _)
  next A rest => exact Matrix.smul_mul _ (A c.1) (amp rest c.2)
  next A rest ih =>
    obtain ⟨s, c⟩ := c
    rw [amp, amp, ih c (Nat.lt_of_succ_lt_succ h), Matrix.mul_smul]

/-- **conj**: entrywise conjugation of every site conjugates every amplitude -/
theorem amp_mapC (f : R →+* R) : ∀ {ds : List ℕ} {l r : ℕ} (a : Chain R ds l r) (c : Cfg ds),
    amp (mapC f a) c = (amp a c).map f := by
  intro ds l r a c
  fun_induction mapC f a
  next l => exact (Matrix.map_one f f.map_zero f.map_one).symm
  next A rest ih =>
    obtain ⟨s, c⟩ := c
    rw [amp, amp, ih, Matrix.map_mul]

/-- one re-factorisation of a two-site tensor somewhere in the chain: the pair of site tensors
    `(A, B)` is replaced by `(A', B')` with the same two-site product (the bond between them may
    change its dimension).  QR / RQ pushes of `canonicalise`, the `U·(S Vᵀ)` / `(U S)·Vᵀ` updates of
    a lossless `compress`, the norm-balancing rescale for operators are all instances. -/
inductive Step : {ds : List ℕ} → {l r : ℕ} → Chain R ds l r → Chain R ds l r → Prop
  | here {d e l m m' k r : ℕ} {ds : List ℕ} (A : Site R d l m) (B : Site R e m k)
      (A' : Site R d l m') (B' : Site R e m' k) (rest : Chain R ds k r)
      (h : ∀ s t, A s * B t = A' s * B' t) :
      Step (.cons A (.cons B rest)) (.cons A' (.cons B' rest))
  | there {d l m r : ℕ} {ds : List ℕ} (A : Site R d l m) {c c' : Chain R ds m r} :
      Step c c' → Step (.cons A c) (.cons A c')

theorem amp_step : ∀ {ds : List ℕ} {l r : ℕ} {a b : Chain R ds l r}, Step a b → ∀ c, amp a c = amp b c := by
  intro ds l r a b h
  induction h with
  | here A B A' B' rest h =>
    intro c
    obtain ⟨s, t, c⟩ := c
    simp only [amp]
    rw [← Matrix.mul_assoc, ← Matrix.mul_assoc, h s t]
  | there A _ ih =>
    intro c
    obtain ⟨s, c⟩ := c
    rw [amp, amp, ih c]

/-- any finite sequence of re-factorisations (a full sweep, several sweeps, partial
    canonicalisation to any stop site, …) -/
inductive Steps : {ds : List ℕ} → {l r : ℕ} → Chain R ds l r → Chain R ds l r → Prop
  | refl {ds l r} (a : Chain R ds l r) : Steps a a
  | tail {ds l r} {a b c : Chain R ds l r} : Steps a b → Step b c → Steps a c

/-- **canonicalise / lossless compress preserve the represented object** -/
theorem amp_steps {ds : List ℕ} {l r : ℕ} {a b : Chain R ds l r} (h : Steps a b) : ∀ c, amp a c = amp b c := by
  induction h with
  | refl => exact fun _ => rfl
  | tail _ hs ih => exact fun c => (ih c).trans (amp_step hs c)

/-- the QR push to the right is a `Step`: `A = Q·Rm` sitewise, `B' = Rm·B` -/
theorem step_pushRight {d e l m m' k r : ℕ} {ds : List ℕ} (A : Site R d l m) (B : Site R e m k)
    (Q : Site R d l m') (Rm : Matrix (Fin m') (Fin m) R) (rest : Chain R ds k r)
    (hQR : ∀ s, Q s * Rm = A s) :
    Step (.cons A (.cons B rest)) (.cons Q (.cons (fun t => Rm * B t) rest)) :=
  Step.here A B Q _ rest (fun s t => by rw [← Matrix.mul_assoc, hQR])

/-- the push to the left: `B = Lm·Q` sitewise, `A' = A·Lm` -/
theorem step_pushLeft {d e l m m' k r : ℕ} {ds : List ℕ} (A : Site R d l m) (B : Site R e m k)
    (Q : Site R e m' k) (Lm : Matrix (Fin m) (Fin m') R) (rest : Chain R ds k r)
    (hLQ : ∀ t, Lm * Q t = B t) :
    Step (.cons A (.cons B rest)) (.cons (fun s => A s * Lm) (.cons Q rest)) :=
  Step.here A B _ Q rest (fun s t => by rw [Matrix.mul_assoc, hLQ])

end RenoVerif.Chain
