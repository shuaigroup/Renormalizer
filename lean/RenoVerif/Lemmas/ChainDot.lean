/- S3 lemmas, second part: bilinear `dot` through transfer matrices, isometric (canonical)
   chains, and application of an operator chain to a state chain. -/
import RenoVerif.Lemmas.Chain
import Mathlib.Algebra.BigOperators.Group.Finset.Basic
import Mathlib.Algebra.BigOperators.Ring.Finset
import Mathlib.Data.Fintype.Prod
import Mathlib.Data.Fintype.BigOperators
import Mathlib.LinearAlgebra.Matrix.ConjTranspose

namespace RenoVerif.Chain
open Matrix Kronecker

variable {R : Type} [CommRing R]

instance instFintypeCfg : (ds : List ℕ) → Fintype (Cfg ds)
  | [] => (inferInstance : Fintype Unit)
  | d :: ds => by
    haveI := instFintypeCfg ds
    exact (inferInstance : Fintype (Fin d × Cfg ds))

/-- `MatrixProduct.dot` (bilinear, no conjugation): `E ← Σ_p A_pᵀ · E · B_p`, site after site -/
def dotFrom : {ds : List ℕ} → {l r l' r' : ℕ} → Matrix (Fin l) (Fin l') R →
    Chain R ds l r → Chain R ds l' r' → Matrix (Fin r) (Fin r') R
  | _, _, _, _, _, E, .nil _, .nil _ => E
  | _, _, _, _, _, E, .cons A ra, .cons B rb => dotFrom (∑ p, (A p)ᵀ * E * B p) ra rb

theorem sum_cfg_nil {M : Type} [AddCommMonoid M] (f : Cfg [] → M) : ∑ c : Cfg [], f c = f () :=
  Fintype.sum_unique (ι := Unit) f

theorem sum_cfg_cons {d : ℕ} {ds : List ℕ} {M : Type} [AddCommMonoid M] (f : Cfg (d :: ds) → M) :
    ∑ c : Cfg (d :: ds), f c = ∑ s : Fin d, ∑ c : Cfg ds, f (s, c) :=
  Fintype.sum_prod_type (f := f)

/-- **dot = Σ over configurations of the product of amplitudes** -/
theorem dotFrom_eq : ∀ {ds : List ℕ} {l r l' r' : ℕ} (E : Matrix (Fin l) (Fin l') R)
    (a : Chain R ds l r) (b : Chain R ds l' r'),
    dotFrom E a b = ∑ c : Cfg ds, (amp a c)ᵀ * E * amp b c := by
  intro ds l r l' r' E a b
  fun_induction dotFrom E a b
  next E => simp only [sum_cfg_nil, amp, transpose_one, Matrix.one_mul, Matrix.mul_one]
  next E A ra B rb ih =>
    rw [ih, sum_cfg_cons, Finset.sum_comm]
    apply Finset.sum_congr rfl
    intro c _
    simp only [amp, Matrix.mul_sum, Matrix.sum_mul, transpose_mul, Matrix.mul_assoc]

/-- closed chains: `dot` is the plain sum of products of dense amplitudes -/
theorem dot_closed {ds : List ℕ} (a b : Chain R ds 1 1) :
    dotFrom (1 : Matrix (Fin 1) (Fin 1) R) a b 0 0 = ∑ c : Cfg ds, amp a c 0 0 * amp b c 0 0 := by
  rw [dotFrom_eq, Matrix.sum_apply]
  apply Finset.sum_congr rfl
  intro c _
  rw [Matrix.mul_one, Matrix.mul_apply, Fin.sum_univ_one, transpose_apply]

section Iso
variable [StarRing R]

/-- left-isometric site: `Σ_σ A_σᴴ A_σ = 1` (what `check_left_canonical` tests) -/
def IsLeftIso {d l m : ℕ} (A : Site R d l m) : Prop := ∑ s, (A s)ᴴ * A s = 1

def AllLeftIso : {ds : List ℕ} → {l r : ℕ} → Chain R ds l r → Prop
  | _, _, _, .nil _ => True
  | _, _, _, .cons A rest => IsLeftIso A ∧ AllLeftIso rest

theorem IsLeftIso.gram {d l m r : ℕ} {A : Site R d l m} (h : IsLeftIso A) (X : Matrix (Fin m) (Fin r) R) :
    ∑ s, (A s * X)ᴴ * (A s * X) = Xᴴ * X := by
  simp only [conjTranspose_mul, Matrix.mul_assoc]
  rw [← Matrix.mul_sum]
  simp only [← Matrix.mul_assoc]
  rw [← Matrix.sum_mul, h, Matrix.one_mul]

/-- a chain of left-isometric sites is an isometry as a whole: its amplitude matrices form an
    orthonormal set of columns (this is why the centre tensor carries the whole norm) -/
theorem gram_of_allLeftIso : ∀ {ds : List ℕ} {l r : ℕ} (a : Chain R ds l r), AllLeftIso a →
    ∑ c : Cfg ds, (amp a c)ᴴ * amp a c = 1 := by
  intro ds l r a h
  induction a with
  | nil l => simp only [sum_cfg_nil, amp, conjTranspose_one, Matrix.one_mul]
  | cons A rest ih =>
    rw [sum_cfg_cons, Finset.sum_comm, ← ih h.2]
    exact Finset.sum_congr rfl fun c _ => h.1.gram (amp rest c)

/-- a QR push with orthonormal `Q` leaves the pushed site left-isometric -/
theorem leftIso_of_orthonormal {d l m : ℕ} (Q : Site R d l m) (h : ∑ s, (Q s)ᴴ * Q s = 1) : IsLeftIso Q := h

end Iso

abbrev OpSite (R : Type) (d l r : ℕ) := Fin d → Fin d → Matrix (Fin l) (Fin r) R

inductive OpChain (R : Type) : List ℕ → ℕ → ℕ → Type
  | nil (l : ℕ) : OpChain R [] l l
  | cons {d l m r : ℕ} {ds : List ℕ} (W : OpSite R d l m) (rest : OpChain R ds m r) : OpChain R (d :: ds) l r

def ampOp : {ds : List ℕ} → {l r : ℕ} → OpChain R ds l r → Cfg ds → Cfg ds → Matrix (Fin l) (Fin r) R
  | _, _, _, .nil _, _, _ => 1
  | _, _, _, .cons W rest, (s, c), (t, c') => W s t * ampOp rest c c'

/-- Kronecker product re-indexed to `Fin (l * l')`, first factor major (NumPy `reshape` of
    `einsum("apqb,cqd->acpbd")`) -/
def kr {l r l' r' : ℕ} (A : Matrix (Fin l) (Fin r) R) (B : Matrix (Fin l') (Fin r') R) :
    Matrix (Fin (l * l')) (Fin (r * r')) R :=
  (A ⊗ₖ B).submatrix finProdFinEquiv.symm finProdFinEquiv.symm

theorem kr_mul {l m r l' m' r' : ℕ} (A : Matrix (Fin l) (Fin m) R) (B : Matrix (Fin m) (Fin r) R)
    (A' : Matrix (Fin l') (Fin m') R) (B' : Matrix (Fin m') (Fin r') R) :
    kr A A' * kr B B' = kr (A * B) (A' * B') := by
  unfold kr
  rw [Matrix.submatrix_mul_equiv, ← Matrix.mul_kronecker_mul]

theorem kr_one (l l' : ℕ) : kr (1 : Matrix (Fin l) (Fin l) R) (1 : Matrix (Fin l') (Fin l') R) = 1 := by
  unfold kr
  rw [one_kronecker_one, submatrix_one_equiv]

theorem kr_sum_left {ι : Type} (s : Finset ι) {l r l' r' : ℕ} (f : ι → Matrix (Fin l) (Fin r) R)
    (B : Matrix (Fin l') (Fin r') R) : kr (∑ i ∈ s, f i) B = ∑ i ∈ s, kr (f i) B := by
  ext i j
  simp only [kr, submatrix_apply, kroneckerMap_apply, Matrix.sum_apply, Finset.sum_mul]

/-- `Mpo.apply` on a state: `(W·A)_σ = Σ_τ W_{στ} ⊗ A_τ` on every site -/
def applyC : {ds : List ℕ} → {a b l r : ℕ} → OpChain R ds a b → Chain R ds l r → Chain R ds (a * l) (b * r)
  | _, _, _, _, _, .nil a, .nil l => .nil (a * l)
  | _, _, _, _, _, .cons W wr, .cons A ar => .cons (fun s => ∑ t, kr (W s t) (A t)) (applyC wr ar)

/-- **apply**: the amplitudes of `W·ψ` are the operator amplitudes contracted with the state
    amplitudes over the ket configuration: `todense(W ψ) = todense(W) · todense(ψ)` -/
theorem amp_applyC : ∀ {ds : List ℕ} {a b l r : ℕ} (w : OpChain R ds a b) (x : Chain R ds l r) (σ : Cfg ds),
    amp (applyC w x) σ = ∑ τ : Cfg ds, kr (ampOp w σ τ) (amp x τ) := by
  intro ds a b l r w x σ
  fun_induction applyC w x
  next a l => simp only [sum_cfg_nil, amp, ampOp, kr_one]
  next W wr A ar ih =>
    obtain ⟨s, σ⟩ := σ
    rw [amp, ih, sum_cfg_cons, Matrix.sum_mul]
    apply Finset.sum_congr rfl
    intro t _
    rw [Matrix.mul_sum]
    apply Finset.sum_congr rfl
    intro τ _
    rw [ampOp, amp, kr_mul]

end RenoVerif.Chain
