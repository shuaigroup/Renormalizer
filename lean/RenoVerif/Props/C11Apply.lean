/-
  C11 / C12 / C02 (operator application on trees) — `TTNO.apply` in the recursive contraction model of `Props/C11Tree`:
  node by node the operator tensor is multiplied with the state tensor and summed over the incoming physical index; the
  state bond and the operator bond of every edge are merged into one bond with the row-major encoding
  `j = j_state * d_op + j_op` (the order of `output_indices` in the code).  Proved by mutual structural induction for
  EVERY tree shape and all dimensions: the contraction of the applied tree at the merged index equals the two-layer
  contraction of operator tree and state tree (`val_applyT`, `val_apply_root`) — i.e. the index bookkeeping of the merge
  (div / mod) is right at every node and every level.
  Tie (harness/c11.py `l2_apply_structure`): every node tensor returned by the real `TTNO.apply` on integer-valued random
  trees is compared entry by entry with the model tensor (einsum over the incoming physical indices, pairwise merge).
-/
import RenoVerif.Props.C11Tree
import Mathlib.Algebra.BigOperators.Group.Finset.Sigma

open Finset
namespace RenoVerif.TreeVal

variable {R : Type} [CommRing R]

/-- sum over a product range, row-major flattening `j = a * n + b` (how the tree code merges an operator bond and a state
    bond into one bond when an operator is applied) -/
theorem sum_range_mul (m n : ℕ) (f : ℕ → R) :
    ∑ j ∈ range (m * n), f j = ∑ a ∈ range m, ∑ b ∈ range n, f (a * n + b) := by
  induction m with
  | zero => rw [Nat.zero_mul, Finset.range_zero, Finset.sum_empty, Finset.sum_empty]
  | succ m ih =>
    rw [Nat.succ_mul, Finset.sum_range_add, ih, Finset.sum_range_succ]

/-- an operator on a tree: like `TT`, with an outgoing and an incoming physical index (`ten js p_out p_in i`) and the
    physical dimension `pd` of the node -/
inductive OT (R : Type)
  | node (d : ℕ) (pd : ℕ) (ten : List ℕ → ℕ → ℕ → ℕ → R) (kids : List (OT R))

def OT.dim : OT R → ℕ | .node d _ _ _ => d

def divs : List ℕ → List ℕ → List ℕ
  | j :: js, d :: ds => (j / d) :: divs js ds
  | _, _ => []
def mods : List ℕ → List ℕ → List ℕ
  | j :: js, d :: ds => (j % d) :: mods js ds
  | _, _ => []

mutual
  /-- `TTNO.apply`: node by node, operator tensor times state tensor summed over the incoming physical index, the state
      bond and the operator bond of every edge merged into one bond (row-major, state index first: `j = j_state * d_op + j_op`,
      the order of `output_indices` in the code) -/
  def applyT : OT R → TT R → TT R
    | .node d_o pd tO ko, .node ds tS ks =>
      .node (ds * d_o)
        (fun js p i => ∑ q ∈ range pd,
          tO (mods js (ko.map OT.dim)) p q (i % d_o) * tS (divs js (ko.map OT.dim)) q (i / d_o))
        (applyL ko ks)
  def applyL : List (OT R) → List (TT R) → List (TT R)
    | o :: os, s :: ss => applyT o s :: applyL os ss
    | _, _ => []
end

mutual
  /-- the two-layer network (operator on top of state) contracted directly, the two bonds of every edge kept apart -/
  def val2 : OT R → TT R → Cf → ℕ → ℕ → R
    | .node _ pd tO ko, .node _ tS ks, .node p cs, io, is =>
      ∑ q ∈ range pd, val2L ko ks cs (fun jo js => tO jo p q io * tS js q is)
  def val2L : List (OT R) → List (TT R) → List Cf → (List ℕ → List ℕ → R) → R
    | [], [], _, f => f [] []
    | o :: os, s :: ss, c :: cs, f =>
      ∑ a ∈ range o.dim, ∑ b ∈ range s.dim, val2 o s c a b * val2L os ss cs (fun jo js => f (a :: jo) (b :: js))
    | _, _, _, _ => 0
end

theorem applyT_dim (o : OT R) (s : TT R) : (applyT o s).dim = s.dim * o.dim := by
  cases o; cases s; rfl

mutual
  def sameO : OT R → TT R → Prop
    | .node _ _ _ ko, .node _ _ ks => sameOL ko ks
  def sameOL : List (OT R) → List (TT R) → Prop
    | [], [] => True
    | o :: os, s :: ss => sameO o s ∧ sameOL os ss
    | _, _ => False
end

/-- the companion of `Nat.mul_add_mod_of_lt`: decoding the row-major merged index `a * n + b` -/
theorem mul_add_div_of_lt {a n b : ℕ} (hb : b < n) : (a * n + b) / n = a :=
  Nat.div_eq_of_lt_le (Nat.le_add_right _ _) (by rw [Nat.succ_mul]; exact Nat.add_lt_add_left hb _)

mutual
  /-- **`TTNO.apply` is the two-layer contraction**: on the merged bond index `is * d_op + io` the contraction of the
      applied tree equals the contraction of operator tree and state tree together, for every tree shape -/
  theorem val_applyT : ∀ (o : OT R) (s : TT R) (c : Cf), sameO o s → ∀ io is, io < o.dim →
      val (applyT o s) c (is * o.dim + io) = val2 o s c io is
    | .node d_o pd tO ko, .node ds tS ks, .node p cs, h, io, is, hio => by
      simp only [applyT, val, val2, OT.dim] at hio ⊢
      rw [mul_add_div_of_lt hio, Nat.mul_add_mod_of_lt hio, valL_sum]
      exact Finset.sum_congr rfl fun q _ => valL_apply ko ks cs h (fun jo js => tO jo p q io * tS js q is)
  theorem valL_apply : ∀ (ko : List (OT R)) (ks : List (TT R)) (cs : List Cf), sameOL ko ks →
      ∀ F : List ℕ → List ℕ → R,
      valL (applyL ko ks) cs (fun js => F (mods js (ko.map OT.dim)) (divs js (ko.map OT.dim))) = val2L ko ks cs F
    | [], [], _, _, _ => rfl
    | [], _ :: _, _, h, _ => nomatch h
    | _ :: _, [], _, h, _ => nomatch h
    | _ :: _, _ :: _, [], _, _ => rfl
    | o :: os, s :: ss, c :: cs, ⟨hos, hrest⟩, F => by
      simp only [applyL, valL, val2L, List.map_cons, applyT_dim, divs, mods]
      -- the merged range `range (s.dim * o.dim)` as a double sum, state index outermost; `val2L` sums in the other order
      rw [sum_range_mul, Finset.sum_comm]
      refine Finset.sum_congr rfl fun a ha => Finset.sum_congr rfl fun b _ => ?_
      have ha' : a < o.dim := Finset.mem_range.mp ha
      rw [val_applyT o s c hos a b ha', mul_add_div_of_lt ha', Nat.mul_add_mod_of_lt ha']
      exact congrArg _ (valL_apply os ss cs hrest (fun jo js => F (a :: jo) (b :: js)))
end

/-- at the root both parent bonds are the dummy bond of dimension 1 -/
theorem val_apply_root (o : OT R) (s : TT R) (c : Cf) (h : sameO o s) (ho : 0 < o.dim) :
    val (applyT o s) c 0 = val2 o s c 0 0 := by
  simpa only [Nat.zero_mul, Nat.add_zero] using val_applyT o s c h 0 0 ho

end RenoVerif.TreeVal
