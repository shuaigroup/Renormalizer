/-
  C11 (arithmetic on trees) — a tree tensor network contracted recursively, node by node (Model: `TT`, `val`): the
  contraction of a subtree is a function of the index of its parent bond; the dense amplitude is `val root cfg 0`.
  Proved by structural (mutual) induction over EVERY tree shape, all bond and physical dimensions, any commutative ring:
  * `val_addT`, `val_addRoot`: `TTNS.add` (every bond the direct sum of the two bonds, every tensor block diagonal, the
    root tensor the sum of its two blocks) represents the SUM of the two dense vectors; for single-node trees the plain
    sum of the tensors (defect D23 of the pinned tree);
  * `val_scaleRoot`: scaling the root tensor scales the dense vector.
  Tie (harness/c11.py `l2_add_structure`): the tensors returned by the real `TTNS.add` on integer-valued random trees are
  compared entry by entry with the block structure of `addT` / `addRoot`; that `todense` is this recursive contraction is
  checked by `l2_tree_invariances` (state sum of the raw tensors vs the dense walk of the built TTNS).
-/
import Mathlib.Algebra.BigOperators.Group.Finset.Basic
import Mathlib.Algebra.BigOperators.Ring.Finset
import Mathlib.Algebra.BigOperators.Pi

open Finset
namespace RenoVerif.TreeVal

variable {R : Type} [CommRing R]

/-- a tree tensor network, node by node: dimension `d` of the bond to the parent, node tensor
    `ten (indices of the children bonds) (physical index) (index of the parent bond)`, ordered children -/
inductive TT (R : Type)
  | node (d : ℕ) (ten : List ℕ → ℕ → ℕ → R) (kids : List (TT R))

/-- a physical configuration of the same shape: one (combined) physical index per node -/
inductive Cf
  | node (p : ℕ) (kids : List Cf)

def TT.dim : TT R → ℕ | .node d _ _ => d

mutual
  /-- contraction of the subtree below (and including) a node, as a function of the index of its parent bond -/
  def val : TT R → Cf → ℕ → R
    | .node _ ten kids, .node p cs, i => valL kids cs (fun js => ten js p i)
  /-- contract the children one after the other -/
  def valL : List (TT R) → List Cf → (List ℕ → R) → R
    | [], _, f => f []
    | _ :: _, [], _ => 0
    | k :: ks, c :: cs, f => ∑ j ∈ range k.dim, val k c j * valL ks cs (fun js => f (j :: js))
end

/-- keep `g` on index lists that lie in the FIRST block of every child bond (`js_k < ds_k`), zero elsewhere -/
def r1 : List ℕ → (List ℕ → R) → List ℕ → R
  | [], g, js => g js
  | _ :: _, _, [] => 0
  | d :: ds, g, j :: js => if j < d then r1 ds (fun t => g (j :: t)) js else 0

/-- keep `g` (with indices shifted back) on index lists that lie in the SECOND block of every child bond -/
def r2 : List ℕ → (List ℕ → R) → List ℕ → R
  | [], g, js => g js
  | _ :: _, _, [] => 0
  | d :: ds, g, j :: js => if d ≤ j then r2 ds (fun t => g ((j - d) :: t)) js else 0

mutual
  /-- `TTNS.add` below the root: every bond becomes the direct sum of the two bonds, every tensor block diagonal -/
  def addT : TT R → TT R → TT R
    | .node d1 t1 k1, .node d2 t2 k2 =>
      .node (d1 + d2)
        (fun js p i => if i < d1 then r1 (k1.map TT.dim) (fun t => t1 t p i) js
                       else r2 (k1.map TT.dim) (fun t => t2 t p (i - d1)) js)
        (addL k1 k2)
  def addL : List (TT R) → List (TT R) → List (TT R)
    | a :: as, b :: bs => addT a b :: addL as bs
    | _, _ => []
end

mutual
  /-- the two trees have the same shape (same number of children everywhere) -/
  def same : TT R → TT R → Prop
    | .node _ _ k1, .node _ _ k2 => sameL k1 k2
  def sameL : List (TT R) → List (TT R) → Prop
    | [], [] => True
    | a :: as, b :: bs => same a b ∧ sameL as bs
    | _, _ => False
end

theorem addT_dim (a b : TT R) : (addT a b).dim = a.dim + b.dim := by
  cases a; cases b; rfl

theorem valL_add : ∀ (ks : List (TT R)) (cs : List Cf) (f g : List ℕ → R),
    valL ks cs (fun js => f js + g js) = valL ks cs f + valL ks cs g
  | [], _, _, _ => rfl
  | _ :: _, [], _, _ => (add_zero 0).symm
  | k :: ks, c :: cs, f, g => by
    simp only [valL, valL_add ks cs, mul_add, Finset.sum_add_distrib]

theorem valL_smul : ∀ (ks : List (TT R)) (cs : List Cf) (x : R) (f : List ℕ → R),
    valL ks cs (fun js => x * f js) = x * valL ks cs f
  | [], _, _, _ => rfl
  | _ :: _, [], x, _ => (mul_zero x).symm
  | k :: ks, c :: cs, x, f => by
    simp only [valL, valL_smul ks cs x, Finset.mul_sum]
    exact Finset.sum_congr rfl fun j _ => mul_left_comm _ _ _

theorem valL_zero (ks : List (TT R)) (cs : List Cf) : valL ks cs (fun _ => (0 : R)) = 0 := by
  simpa only [mul_zero, zero_mul] using valL_smul ks cs 0 (fun _ => 0)

theorem valL_sum {ι : Type} (S : Finset ι) (ks : List (TT R)) (cs : List Cf) (g : ι → List ℕ → R) :
    valL ks cs (fun js => ∑ q ∈ S, g q js) = ∑ q ∈ S, valL ks cs (g q) := by
  rw [← Finset.sum_fn]
  exact map_sum (AddMonoidHom.mk' (valL ks cs) (valL_add ks cs)) g S

mutual
  /-- **direct sum below the root**: the contraction of the sum tree, as a function of the index of the parent bond, is
      the first summand's on the first block and the second summand's on the second block -/
  theorem val_addT : ∀ (a b : TT R) (c : Cf), same a b → ∀ i,
      val (addT a b) c i = if i < a.dim then val a c i else val b c (i - a.dim)
    | .node d1 t1 k1, .node d2 t2 k2, .node p cs, h, i => by
      simp only [addT, val, TT.dim]
      by_cases hi : i < d1
      · simp only [hi, if_true]
        exact valL_r1 k1 k2 cs h (fun t => t1 t p i)
      · simp only [hi, if_false]
        exact valL_r2 k1 k2 cs h (fun t => t2 t p (i - d1))
  /-- on a function kept on the first blocks only, the children of the sum tree contract like the first summand's: the
      range of the head bond splits at `a.dim`; the second block contributes nothing as the function vanishes there -/
  theorem valL_r1 : ∀ (ka kb : List (TT R)) (cs : List Cf), sameL ka kb → ∀ g : List ℕ → R,
      valL (addL ka kb) cs (r1 (ka.map TT.dim) g) = valL ka cs g
    | [], [], _, _, _ => rfl
    | [], _ :: _, _, h, _ => nomatch h
    | _ :: _, [], _, h, _ => nomatch h
    | _ :: _, _ :: _, [], _, _ => rfl
    | a :: as, b :: bs, c :: cs, ⟨hab, hrest⟩, g => by
      simp only [addL, valL, List.map_cons, addT_dim, r1]
      rw [Finset.sum_range_add, Finset.sum_eq_zero (s := range b.dim), add_zero]
      · refine Finset.sum_congr rfl fun j hj => ?_
        have hj' : j < a.dim := Finset.mem_range.mp hj
        simp only [val_addT a b c hab j, if_pos hj', valL_r1 as bs cs hrest]
      · intro x _
        simp only [if_neg (Nat.not_lt.mpr (Nat.le_add_right a.dim x)), valL_zero, mul_zero]
  /-- the mirror image: kept on the second blocks only, like the second summand's -/
  theorem valL_r2 : ∀ (ka kb : List (TT R)) (cs : List Cf), sameL ka kb → ∀ g : List ℕ → R,
      valL (addL ka kb) cs (r2 (ka.map TT.dim) g) = valL kb cs g
    | [], [], _, _, _ => rfl
    | [], _ :: _, _, h, _ => nomatch h
    | _ :: _, [], _, h, _ => nomatch h
    | _ :: _, _ :: _, [], _, _ => rfl
    | a :: as, b :: bs, c :: cs, ⟨hab, hrest⟩, g => by
      simp only [addL, valL, List.map_cons, addT_dim, r2]
      rw [Finset.sum_range_add, Finset.sum_eq_zero (s := range a.dim), zero_add]
      · refine Finset.sum_congr rfl fun j _ => ?_
        have hj : ¬ a.dim + j < a.dim := Nat.not_lt.mpr (Nat.le_add_right a.dim j)
        simp only [val_addT a b c hab (a.dim + j), if_neg hj, if_pos (Nat.le_add_right a.dim j),
          Nat.add_sub_cancel_left, valL_r2 as bs cs hrest]
      · intro x hx
        simp only [if_neg (Nat.not_le.mpr (Finset.mem_range.mp hx)), valL_zero, mul_zero]
end

/-- `TTNS.add` at the root: the parent bond of the root is the dummy bond of dimension 1 and stays so; the root tensor is
    the sum of the two blocks.  For a single-node tree (no children) this is the plain sum of the two tensors. -/
def addRoot : TT R → TT R → TT R
  | .node _ t1 k1, .node _ t2 k2 =>
    .node 1 (fun js p i => r1 (k1.map TT.dim) (fun t => t1 t p i) js + r2 (k1.map TT.dim) (fun t => t2 t p i) js) (addL k1 k2)

/-- **`add` is the sum of the dense vectors**, for every tree shape, all bond and physical dimensions -/
theorem val_addRoot (a b : TT R) (c : Cf) (h : same a b) (i : ℕ) :
    val (addRoot a b) c i = val a c i + val b c i := by
  obtain ⟨d1, t1, k1⟩ := a
  obtain ⟨d2, t2, k2⟩ := b
  obtain ⟨p, cs⟩ := c
  simp only [addRoot, val]
  rw [valL_add, valL_r1 k1 k2 cs h, valL_r2 k1 k2 cs h]

/-- scaling the root tensor scales the dense vector (`TTNS.scale`) -/
def scaleRoot (x : R) : TT R → TT R
  | .node d t k => .node d (fun js p i => x * t js p i) k

theorem val_scaleRoot (x : R) (a : TT R) (c : Cf) (i : ℕ) : val (scaleRoot x a) c i = x * val a c i := by
  obtain ⟨d, t, k⟩ := a
  obtain ⟨p, cs⟩ := c
  exact valL_smul k cs x fun js => t js p i

/-- single-node trees: `add` is the plain sum of the two tensors (the pinned tree returned `other`: defect D23) -/
example (t1 t2 : List ℕ → ℕ → ℕ → R) (p i : ℕ) :
    val (addRoot (.node 1 t1 []) (.node 1 t2 [])) (.node p []) i = t1 [] p i + t2 [] p i := rfl

end RenoVerif.TreeVal
