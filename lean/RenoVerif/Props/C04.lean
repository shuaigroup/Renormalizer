/-
  C04 — canonicalisation and lossless compression preserve the represented object; sites behind
  the centre are isometries.  The QR / SVD kernels enter as parameters with their contract
  (`Q·R = A`, `QᴴQ = 1`): the theorems hold for EVERY kernel output satisfying the contract.
-/
import RenoVerif.Lemmas.ChainDot

namespace RenoVerif.Chain
open Matrix

variable {R : Type} [CommRing R]

/-- any finite sequence of bond re-factorisations that keep the two-site tensors (QR pushes in
    either direction, to any stop site; lossless SVD updates; operator norm balancing) leaves
    every amplitude unchanged -/
theorem c04_regauge_preserves {ds : List ℕ} {l r : ℕ} {a b : Chain R ds l r} (h : Steps a b) (c : Cfg ds) :
    amp a c = amp b c := amp_steps h c

/-- the right-moving push of `_push_cano`/`_update_ms` is such a re-factorisation whenever `Q·R = A` -/
theorem c04_pushRight_is_step {d e l m m' k r : ℕ} {ds : List ℕ} (A : Site R d l m) (B : Site R e m k)
    (Q : Site R d l m') (Rm : Matrix (Fin m') (Fin m) R) (rest : Chain R ds k r) (hQR : ∀ s, Q s * Rm = A s) :
    Step (.cons A (.cons B rest)) (.cons Q (.cons (fun t => Rm * B t) rest)) := step_pushRight A B Q Rm rest hQR

theorem c04_pushLeft_is_step {d e l m m' k r : ℕ} {ds : List ℕ} (A : Site R d l m) (B : Site R e m k)
    (Q : Site R e m' k) (Lm : Matrix (Fin m) (Fin m') R) (rest : Chain R ds k r) (hLQ : ∀ t, Lm * Q t = B t) :
    Step (.cons A (.cons B rest)) (.cons (fun s => A s * Lm) (.cons Q rest)) := step_pushLeft A B Q Lm rest hLQ

/-- lossless truncated SVD update: if `A = U·S·Vᵀ` sitewise with the kept columns, then keeping
    `U` and multiplying `S·Vᵀ` into the neighbour is a re-factorisation (bond may shrink) -/
theorem c04_svd_update_is_step {d e l m m' k r : ℕ} {ds : List ℕ} (A : Site R d l m) (B : Site R e m k)
    (U : Site R d l m') (S : Matrix (Fin m') (Fin m') R) (Vt : Matrix (Fin m') (Fin m) R)
    (rest : Chain R ds k r) (h : ∀ s, U s * (S * Vt) = A s) :
    Step (.cons A (.cons B rest)) (.cons U (.cons (fun t => (S * Vt) * B t) rest)) :=
  step_pushRight A B U (S * Vt) rest h

/-- operator norm balancing `u·c, vt/c`: scaling the two factors inversely is a re-factorisation -/
theorem c04_rescale_is_step {d e l m k r : ℕ} {ds : List ℕ} (A : Site R d l m) (B : Site R e m k)
    (x y : R) (hxy : x * y = 1) (rest : Chain R ds k r) :
    Step (.cons A (.cons B rest)) (.cons (fun s => x • A s) (.cons (fun t => y • B t) rest)) :=
  Step.here A B _ _ rest (fun s t => by
    rw [Matrix.smul_mul, Matrix.mul_smul, smul_smul, hxy, one_smul])

section Iso
variable [StarRing R]

/-- after the sweep every site behind the centre is left-isometric, hence the whole block is an
    isometry (Gram matrix of its amplitude matrices is the identity) -/
theorem c04_block_isometry {ds : List ℕ} {l r : ℕ} (a : Chain R ds l r) (h : AllLeftIso a) :
    ∑ c : Cfg ds, (amp a c)ᴴ * amp a c = 1 := gram_of_allLeftIso a h

end Iso

/-! dimension bookkeeping of one left-to-right sweep with economic factorisations (no QN blocks):
    the new right bond of a site is `min (Dleft·d) Dold`. -/
def sweepR : List ℕ → List ℕ → ℕ → List ℕ
  | d :: ds, Dold :: Ds, D => let D' := min (D * d) Dold; D' :: sweepR ds Ds D'
  | _, _, _ => []

/-- cumulative products of the physical dimensions to the left of each bond -/
def prefixProds : List ℕ → ℕ → List ℕ
  | [], _ => []
  | d :: ds, D => (D * d) :: prefixProds ds (D * d)

/-- no bond dimension grows -/
theorem sweepR_le_old : ∀ (ds Ds : List ℕ) (D : ℕ), List.Forall₂ (· ≤ ·) (sweepR ds Ds D) (Ds.take (sweepR ds Ds D).length) := by
  intro ds Ds D
  fun_induction sweepR ds Ds D with
  | case1 d ds Dold Ds D _ ih => exact .cons (Nat.min_le_right _ _) ih
  | case2 => exact .nil

/-- the bound of `sweepR_le_prefix` in the form that goes through the induction: the running bond
    `D` of the sweep may be smaller than the running product `D'` -/
theorem sweepR_le_prefix_of_le (ds Ds : List ℕ) (D D' : ℕ) (h : D ≤ D') :
    List.Forall₂ (· ≤ ·) (sweepR ds Ds D) ((prefixProds ds D').take (sweepR ds Ds D).length) := by
  fun_induction sweepR ds Ds D generalizing D' with
  | case1 d ds Dold Ds D _ ih =>
    have h' : min (D * d) Dold ≤ D' * d := (Nat.min_le_left _ _).trans (Nat.mul_le_mul_right d h)
    exact .cons h' (ih (D' * d) h')
  | case2 => exact .nil

/-- after the sweep every bond is bounded by the product of the physical dimensions to its left
    (times the incoming bond); the mirror sweep gives the bound from the right -/
theorem sweepR_le_prefix : ∀ (ds Ds : List ℕ) (D : ℕ),
    List.Forall₂ (· ≤ ·) (sweepR ds Ds D) ((prefixProds ds D).take (sweepR ds Ds D).length) :=
  fun ds Ds D => sweepR_le_prefix_of_le ds Ds D D le_rfl

example : sweepR [2, 3, 2] [5, 7, 1] 1 = [2, 6, 1] := by decide

end RenoVerif.Chain
