/-
  C07 — the cached-environment fast path of `expectations`: the cache is prefix closed for EVERY
  list of operators (no KeyError), every cached environment is the plain site-by-site
  contraction of its key, and the environment handed out for an operator is the contraction of
  one of its prefixes.  (The contraction itself = dense expectation value is the chain theorem
  `c03_dot`/`dotFrom_eq`; entropies are float formulas on proved-correct reduced density matrices.)
-/
import RenoVerif.Model.EnvCache
import Mathlib.Data.List.Basic
import Mathlib.Data.Prod.Lex

theorem List.Pairwise.idxOf_lt_of_not_rel {α : Type _} [BEq α] [LawfulBEq α] {r : α → α → Prop} {l : List α}
    (hl : l.Pairwise r) {a b : α} (ha : a ∈ l) (hb : b ∈ l) (hab : a ≠ b) (h : ¬ r b a) :
    l.idxOf a < l.idxOf b := by
  have hia := List.idxOf_lt_length_iff.mpr ha
  have hib := List.idxOf_lt_length_iff.mpr hb
  refine Nat.lt_of_le_of_ne (Nat.le_of_not_lt fun hlt => h ?_) fun e => hab ((List.idxOf_inj ha).mp e)
  simpa only [List.getElem_idxOf] using List.pairwise_iff_getElem.mp hl _ _ hib hia hlt

theorem List.IsPrefix.idxOf_lt_of_idxOf_lt {α : Type _} [BEq α] [LawfulBEq α] {p l : List α} (hp : p <+: l) {a b : α}
    (hb : b ∈ p) (h : l.idxOf a < l.idxOf b) : a ∈ p ∧ p.idxOf a < p.idxOf b := by
  obtain ⟨t, rfl⟩ := hp
  rw [List.idxOf_append_of_mem hb] at h
  have ha : a ∈ p := by
    by_contra hn
    rw [List.idxOf_append_of_notMem hn] at h
    exact (Nat.le_add_right _ _).not_gt (h.trans (List.idxOf_lt_length_iff.mpr hb))
  rw [List.idxOf_append_of_mem ha] at h
  exact ⟨ha, h⟩

theorem List.not_idxOf_lt_idxOf_head {α : Type _} [BEq α] [LawfulBEq α] (a b : α) (l : List α) :
    ¬ (b :: l).idxOf a < (b :: l).idxOf b := by
  rw [List.idxOf_cons_self]
  exact Nat.not_lt_zero _

namespace RenoVerif.EnvCache

theorem isPrefixOf_trans {α : Type _} [BEq α] [LawfulBEq α] {a b c : List α} (h1 : a.isPrefixOf b = true)
    (h2 : b.isPrefixOf c = true) : a.isPrefixOf c = true :=
  List.isPrefixOf_iff_prefix.mpr ((List.isPrefixOf_iff_prefix.mp h1).trans (List.isPrefixOf_iff_prefix.mp h2))

/-- a prefix is at least as frequent as any of its extensions -/
theorem count_mono (seqs : List Key) (p k : Key) (h : p.isPrefixOf k = true) :
    countPrefix seqs k ≤ countPrefix seqs p :=
  (List.monotone_filter_right seqs fun _ hs => isPrefixOf_trans h hs).length_le

/-- the sort key `(-count, len)` of `le`, in the lexicographic order -/
def sortKey (seqs : List Key) (k : Key) : ℕᵒᵈ ×ₗ ℕ := toLex (OrderDual.toDual (countPrefix seqs k), k.length)

theorem le_iff {seqs : List Key} {a b : Key} : le seqs a b = true ↔ sortKey seqs a ≤ sortKey seqs b := by
  simp only [le, sortKey, Prod.Lex.toLex_le_toLex, OrderDual.toDual_lt_toDual, OrderDual.toDual_inj,
    Bool.or_eq_true, Bool.and_eq_true, decide_eq_true_eq, beq_iff_eq]

/-- the one-shorter prefix sorts STRICTLY before its extension -/
theorem sortKey_dropLast_lt (seqs : List Key) (k : Key) (hk : k ≠ []) : sortKey seqs k.dropLast < sortKey seqs k := by
  have hc := count_mono seqs k.dropLast k (List.isPrefixOf_iff_prefix.mpr (List.dropLast_prefix k))
  have hl : k.dropLast.length < k.length := by
    rw [List.length_dropLast]
    exact Nat.sub_one_lt (mt List.length_eq_zero_iff.mp hk)
  exact Prod.Lex.toLex_lt_toLex.mpr
    (hc.lt_or_eq.imp OrderDual.toDual_lt_toDual.mpr fun e => ⟨congrArg OrderDual.toDual e.symm, hl⟩)

theorem sortedPrefixes_pairwise (seqs : List Key) :
    (sortedPrefixes seqs).Pairwise fun a b => sortKey seqs a ≤ sortKey seqs b := by
  refine (List.pairwise_mergeSort (le := le seqs) (fun a b c hab hbc => ?_) (fun a b => ?_) _).imp le_iff.mp
  · exact le_iff.mpr (le_trans (le_iff.mp hab) (le_iff.mp hbc))
  · rw [Bool.or_eq_true, le_iff, le_iff]
    exact le_total _ _

theorem mem_allPrefixes {seqs : List Key} {k : Key} : k ∈ allPrefixes seqs ↔ k ≠ [] ∧ ∃ s ∈ seqs, k <+: s := by
  unfold allPrefixes
  simp only [List.mem_eraseDups, List.mem_flatMap, List.mem_map, List.mem_range]
  constructor
  · rintro ⟨s, hs, i, hi, rfl⟩
    refine ⟨fun h0 => ?_, s, hs, List.take_prefix _ s⟩
    rcases List.take_eq_nil_iff.mp h0 with h | h
    · exact Nat.succ_ne_zero i h
    · rw [h] at hi
      exact Nat.not_lt_zero i hi
  · rintro ⟨hne, s, hs, hp⟩
    have hpos := List.length_pos_of_ne_nil hne
    refine ⟨s, hs, k.length - 1, Nat.lt_of_lt_of_le (Nat.sub_one_lt hpos.ne') hp.length_le, ?_⟩
    rw [Nat.sub_add_cancel hpos]
    exact (List.prefix_iff_eq_take.mp hp).symm

/-- the set of counted sequences is prefix closed -/
theorem dropLast_mem_allPrefixes (seqs : List Key) (k : Key) (h : k ∈ allPrefixes seqs) (h2 : 2 ≤ k.length) :
    k.dropLast ∈ allPrefixes seqs := by
  obtain ⟨_, s, hs, hp⟩ := mem_allPrefixes.mp h
  refine mem_allPrefixes.mpr ⟨List.ne_nil_of_length_pos ?_, s, hs, (List.dropLast_prefix k).trans hp⟩
  rw [List.length_dropLast]
  exact Nat.sub_pos_of_lt h2

theorem mem_sortedPrefixes {seqs : List Key} {k : Key} : k ∈ sortedPrefixes seqs ↔ k ∈ allPrefixes seqs :=
  (List.mergeSort_perm _ _).mem_iff

/-- in the sorted list the one-shorter prefix comes strictly earlier -/
theorem dropLast_before (seqs : List Key) (k : Key) (h : k ∈ sortedPrefixes seqs) (h2 : 2 ≤ k.length) :
    (sortedPrefixes seqs).idxOf k.dropLast < (sortedPrefixes seqs).idxOf k := by
  have hlt := sortKey_dropLast_lt seqs k (List.ne_nil_of_length_pos (Nat.lt_of_lt_of_le Nat.two_pos h2))
  have ha : k.dropLast ∈ sortedPrefixes seqs :=
    mem_sortedPrefixes.mpr (dropLast_mem_allPrefixes seqs k (mem_sortedPrefixes.mp h) h2)
  exact (sortedPrefixes_pairwise seqs).idxOf_lt_of_not_rel ha h (fun e => hlt.ne (congrArg (sortKey seqs) e))
    (not_le.mpr hlt)

theorem selectKeys_prefix (seqs : List Key) (nsite : Nat) : selectKeys seqs nsite <+: sortedPrefixes seqs :=
  (List.take_prefix _ _).trans (List.takeWhile_prefix _)

/-- **the cache is prefix closed, in construction order**, for every list of operators and every
    chain length: each cached sequence of length ≥ 2 has its one-shorter prefix cached EARLIER. -/
theorem selectKeys_closed (seqs : List Key) (nsite : Nat) (k : Key) (h : k ∈ selectKeys seqs nsite) :
    k ≠ [] ∧ (2 ≤ k.length → k.dropLast ∈ selectKeys seqs nsite ∧
      (selectKeys seqs nsite).idxOf k.dropLast < (selectKeys seqs nsite).idxOf k) := by
  have hkL : k ∈ sortedPrefixes seqs := (selectKeys_prefix seqs nsite).subset h
  exact ⟨(mem_allPrefixes.mp (mem_sortedPrefixes.mp hkL)).1,
    fun h2 => (selectKeys_prefix seqs nsite).idxOf_lt_of_idxOf_lt h (dropLast_before seqs k hkL h2)⟩

section Build
variable {E : Type} (T : Nat → Nat → E → E) (ones : E)

theorem foldEnv_snoc (l : Key) (h : Nat) : foldEnv T ones (l ++ [h]) = T l.length h (foldEnv T ones l) := by
  unfold foldEnv
  rw [List.zipIdx_append, List.foldl_append]
  simp only [List.zipIdx_cons, List.zipIdx_nil, List.foldl_cons, List.foldl_nil, Nat.zero_add]

theorem foldEnv_dropLast (k : Key) (h : Nat) (hl : k.getLast? = some h) :
    foldEnv T ones k = T (k.length - 1) h (foldEnv T ones k.dropLast) := by
  conv_lhs => rw [← List.dropLast_append_getLast? h hl]
  rw [foldEnv_snoc, List.length_dropLast]

theorem lookup_of_mem (d : Dict E) (k : Key) (h : k ∈ d.map (·.1)) : ∃ e, lookup d k = some e ∧ (k, e) ∈ d := by
  obtain ⟨p, hp, rfl⟩ := List.mem_map.mp h
  cases hf : d.find? (fun q => q.1 == p.1) with
  | none => exact absurd (beq_self_eq_true p.1) (List.find?_eq_none.mp hf p hp)
  | some q =>
    have hk := List.find?_some hf
    refine ⟨q.2, congrArg (Option.map Prod.snd) hf, ?_⟩
    rw [← eq_of_beq hk]
    exact List.mem_of_find?_eq_some hf

/-- what `buildDict` needs: every key still to be processed is non-empty, and its one-shorter
    prefix is already in the dictionary or comes earlier in the list -/
def Good (d : Dict E) (rest : List Key) : Prop :=
  ∀ k ∈ rest, k ≠ [] ∧ (k.dropLast ∈ d.map (·.1) ∨ rest.idxOf k.dropLast < rest.idxOf k)

theorem Good.head {d : Dict E} {k : Key} {ks : List Key} (hg : Good d (k :: ks)) :
    k ≠ [] ∧ k.dropLast ∈ d.map (·.1) := by
  obtain ⟨hne, h⟩ := hg k List.mem_cons_self
  exact ⟨hne, h.resolve_right (List.not_idxOf_lt_idxOf_head k.dropLast k ks)⟩

theorem Good.tail {d : Dict E} {k : Key} {ks : List Key} (hg : Good d (k :: ks)) (e : E) :
    Good (d ++ [(k, e)]) ks := by
  intro k' hk'
  obtain ⟨hne', hpre'⟩ := hg k' (List.mem_cons_of_mem k hk')
  refine ⟨hne', ?_⟩
  rw [List.map_append, List.mem_append, List.map_singleton, List.mem_singleton]
  by_cases hdk : k'.dropLast = k
  · exact .inl (.inr hdk)
  rcases hpre' with h | h
  · exact .inl (.inl h)
  by_cases hkk : k' = k
  · subst hkk
    exact absurd h (List.not_idxOf_lt_idxOf_head k'.dropLast k' ks)
  · rw [List.idxOf_cons_ne _ (Ne.symm hdk), List.idxOf_cons_ne _ (Ne.symm hkk)] at h
    exact .inr (Nat.lt_of_succ_lt_succ h)

/-- under the invariant, `buildDict` appends the keys in order, each with the contraction of its key -/
theorem buildDict_eq (ks : List Key) (d : Dict E) (hv : ∀ p ∈ d, p.2 = foldEnv T ones p.1) (hg : Good d ks) :
    buildDict T ones ks d = some (d ++ ks.map fun k => (k, foldEnv T ones k)) := by
  induction ks generalizing d with
  | nil =>
    rw [List.map_nil, List.append_nil]
    rfl
  | cons k ks ih =>
    obtain ⟨hne, hmem⟩ := hg.head
    obtain ⟨e, hlook, hin⟩ := lookup_of_mem d k.dropLast hmem
    have hlast := List.getLast?_eq_some_getLast hne
    have he : e = foldEnv T ones k.dropLast := hv _ hin
    simp only [buildDict, hlast, hlook]
    rw [he, ← foldEnv_dropLast T ones k _ hlast,
      ih _ (List.forall_mem_append.mpr ⟨hv, List.forall_mem_singleton.mpr rfl⟩) (hg.tail _),
      List.map_cons, List.append_assoc, List.singleton_append]

theorem buildDict_correct : ∀ (ks : List Key) (d : Dict E),
    (∀ p ∈ d, p.2 = foldEnv T ones p.1) → Good d ks →
    ∃ d', buildDict T ones ks d = some d' ∧ (∀ p ∈ d', p.2 = foldEnv T ones p.1) ∧
      (∀ k ∈ ks, k ∈ d'.map (·.1)) ∧ (∀ k ∈ d.map (·.1), k ∈ d'.map (·.1)) := fun ks d hv hg =>
  ⟨_, buildDict_eq T ones ks d hv hg,
    List.forall_mem_append.mpr ⟨hv, List.forall_mem_map.mpr fun _ _ => rfl⟩,
    fun k hk => List.mem_map.mpr ⟨(k, foldEnv T ones k), List.mem_append_right d (List.mem_map_of_mem hk), rfl⟩,
    fun k hk => by
      rw [List.map_append]
      exact List.mem_append_left _ hk⟩

theorem good_selectKeys (seqs : List Key) (nsite : Nat) : Good ([([], ones)] : Dict E) (selectKeys seqs nsite) := by
  intro k hk
  obtain ⟨hne, hcl⟩ := selectKeys_closed seqs nsite k hk
  refine ⟨hne, ?_⟩
  rcases Nat.lt_or_ge k.length 2 with h2 | h2
  · have : k.dropLast = [] := by
      apply List.eq_nil_of_length_eq_zero
      rw [List.length_dropLast]
      exact Nat.sub_eq_zero_of_le (Nat.le_of_lt_succ h2)
    rw [this]
    exact .inl List.mem_cons_self
  · exact .inr (hcl h2).2

/-- **no KeyError, and every cached environment is the site-by-site contraction of its key** —
    for every list of operators (shared prefixes, identical operators, any order) -/
theorem construct_correct (seqs : List Key) (nsite : Nat) :
    ∃ d, construct T ones seqs nsite = some d ∧ (∀ p ∈ d, p.2 = foldEnv T ones p.1) ∧
      ∀ k ∈ selectKeys seqs nsite, k ∈ d.map (·.1) := by
  obtain ⟨d, hb, hv, hks, _⟩ := buildDict_correct T ones (selectKeys seqs nsite) [([], ones)]
    (List.forall_mem_singleton.mpr rfl) (good_selectKeys ones seqs nsite)
  exact ⟨d, hb, hv, hks⟩

theorem getFreq.go_le (d : Dict E) (mpo : Key) (maxLen k fuel : Nat) (h1 : k ≤ maxLen) (h2 : k ≤ mpo.length) :
    getFreq.go d mpo maxLen k fuel ≤ maxLen ∧ getFreq.go d mpo maxLen k fuel ≤ mpo.length := by
  fun_induction getFreq.go d mpo maxLen k fuel with
  | case1 k => exact ⟨h1, h2⟩
  | case2 k fuel hc ih => exact ih hc.2.1 hc.1
  | case3 k fuel hc => exact ⟨h1, h2⟩

/-- whatever `_get_freq_environ` hands out is the contraction of a prefix of the operator, of
    length at most `maxLen` (so the left and right pieces never overlap) -/
theorem getFreq_le (d : Dict E) (mpo : Key) (maxLen : Nat) : getFreq d mpo maxLen ≤ maxLen ∧ getFreq d mpo maxLen ≤ mpo.length :=
  getFreq.go_le d mpo maxLen 0 mpo.length (Nat.zero_le _) (Nat.zero_le _)

end Build

-- non-vacuity: three operators sharing prefixes; the model caches the shared ones and never fails
example : (buildDict (fun i h e => (i, h) :: e) ([] : List (Nat × Nat)) [[1],[1,2]] [([], [])]).isSome = true := by
  decide +kernel
example : (buildDict (fun i h e => (i, h) :: e) ([] : List (Nat × Nat)) [[1,2],[1]] [([], [])]).isSome = false := by
  decide +kernel   -- an order that is not prefix closed does raise KeyError: the theorem is not vacuous
example : countPrefix [[1,2,3],[1,2,4],[1,5,3]] [1,2] = 2 := by decide +kernel
example : getFreq ([([], 0), ([1], 1), ([1,2], 2)] : Dict Nat) [1,2,4] 10 = 2 := by decide +kernel

end RenoVerif.EnvCache
