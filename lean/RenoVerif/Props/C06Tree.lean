/-
  C06 (trees) — conserved quantum numbers on a tree tensor network.  The block-sparsity invariant that the tree code
  maintains (`TTNS.get_qnmask`: labels of the children bonds + labels of the physical configuration = label of the node's
  own bond; the root's bond carries `qntot`) implies, for EVERY rooted tree, bond dimensions and labels in any additive
  group (one or several components), that every configuration with a non-zero amplitude lies in the sector `qntot`.
  The hypothesis is what `search_c06` (`tree_label_problems`) checks on the real node tensors after every operation and
  inside the sweeps; the conclusion is checked against the dense vector.
-/
import Mathlib.Algebra.BigOperators.Group.Finset.Basic
import Mathlib.Algebra.BigOperators.Ring.Finset
import Mathlib.Data.Fintype.Pi
import Mathlib.Data.Fintype.BigOperators

open Finset
namespace RenoVerif.TreeQN

variable {R : Type} [CommRing R]
variable {V : Type} [Fintype V] [DecidableEq V]
variable {Q : Type} [AddCommGroup Q]

/-- A rooted tree network: every node `v` owns the bond to its parent (bond `v`, dimension `dim v`; the root's bond is
    the dummy bond of the total quantum number).  `parent v` is the upper end of bond `v` (irrelevant for the root).
    Node tensors are functions of the whole bond assignment and of the node's physical configuration. -/
structure TreeNet (R : Type) (V : Type) (Q : Type) where
  root : V
  parent : V → V
  dim : V → ℕ
  P : V → Type
  T : (v : V) → ((e : V) → Fin (dim e)) → P v → R
  /-- label of every value of every bond (for the root: the total quantum number) -/
  q : (e : V) → Fin (dim e) → Q
  /-- label of every physical configuration of a node (sum over its basis sets) -/
  sigma : (v : V) → P v → Q

variable (N : TreeNet R V Q)

def amp (cfg : (v : V) → N.P v) : R := ∑ β : ((e : V) → Fin (N.dim e)), ∏ v, N.T v β (cfg v)

/-- children of `v`: the non-root nodes whose parent is `v` -/
def kids (v : V) : Finset V := univ.filter fun c => c ≠ N.root ∧ N.parent c = v

/-- the block-sparsity invariant the tree code maintains (`check_qn` / `get_qnmask`): a non-zero entry of a node tensor
    has  Σ labels of its children bonds + label of its physical configuration = label of its own (parent) bond -/
def Inv : Prop :=
  ∀ v β p, N.T v β p ≠ 0 → (∑ c ∈ kids N v, N.q c (β c)) + N.sigma v p = N.q v (β v)

omit [CommRing R] in
/-- every non-root node is a child of exactly one node, its parent -/
theorem sum_kids (f : V → Q) : ∑ v, ∑ c ∈ kids N v, f c = ∑ c ∈ univ.erase N.root, f c := by
  simp only [kids, ← Finset.filter_filter, Finset.filter_ne']
  exact Finset.sum_fiberwise (univ.erase N.root) N.parent f

/-- **sector theorem for trees**: if the invariant holds and the root's bond carries the single label `qntot`, every
    configuration with a non-zero amplitude has total physical label `qntot` -/
theorem sector_of_inv [NoZeroDivisors R] [Nontrivial R] (h : Inv N) (qntot : Q) (hroot : ∀ k, N.q N.root k = qntot)
    (cfg : (v : V) → N.P v) (hamp : amp N cfg ≠ 0) : ∑ v, N.sigma v (cfg v) = qntot := by
  unfold amp at hamp
  obtain ⟨β, _, hβ⟩ := Finset.exists_ne_zero_of_sum_ne_zero hamp
  have hv : ∀ v, N.T v β (cfg v) ≠ 0 := fun v h0 => hβ (Finset.prod_eq_zero (Finset.mem_univ v) h0)
  have hsum : ∑ v, ((∑ c ∈ kids N v, N.q c (β c)) + N.sigma v (cfg v)) = ∑ v, N.q v (β v) :=
    Finset.sum_congr rfl fun v _ => h v β (cfg v) (hv v)
  rw [Finset.sum_add_distrib, sum_kids N (fun c => N.q c (β c))] at hsum
  rw [← Finset.add_sum_erase univ (fun v => N.q v (β v)) (Finset.mem_univ N.root), hroot] at hsum
  -- hsum : Σ_{c≠root} q_c + Σ σ = qntot + Σ_{c≠root} q_c
  exact add_left_cancel (hsum.trans (add_comm _ _))

/-- contrapositive, as the code uses it: amplitudes outside the sector vanish -/
theorem amp_zero_outside_sector [NoZeroDivisors R] [Nontrivial R] (h : Inv N) (qntot : Q) (hroot : ∀ k, N.q N.root k = qntot)
    (cfg : (v : V) → N.P v) (hne : ∑ v, N.sigma v (cfg v) ≠ qntot) : amp N cfg = 0 := by
  by_contra h0
  exact hne (sector_of_inv N h qntot hroot cfg h0)

/-! non-vacuity: root 0 (dummy bond of dimension 1 labelled 1) with one child 1 (bond of dimension 2, labels 0 and 1),
    two-level sites with labels 0 and 1; the one-particle sector -/
private def ex : TreeNet ℤ (Fin 2) ℤ where
  root := 0
  parent := fun _ => 0
  dim := fun v => if v = 0 then 1 else 2
  P := fun _ => Fin 2
  q := fun v k => if v = 0 then 1 else (k.val : ℤ)
  sigma := fun _ p => (p.val : ℤ)
  T := fun v β p =>
    if v = 0 then (if ((β 1).val : ℤ) + (p.val : ℤ) = 1 then 1 else 0)
    else (if ((β 1).val : ℤ) = (p.val : ℤ) then 1 else 0)

example : amp ex (fun v => if v = 0 then (1 : Fin 2) else (0 : Fin 2)) = 1 := by decide
example : amp ex (fun _ => (1 : Fin 2)) = 0 := by decide
/-- the example network satisfies the invariant and the root hypothesis (the theorem's premises are satisfiable) -/
example : Inv ex ∧ ∀ k, ex.q ex.root k = 1 := by
  unfold Inv
  -- all quantifiers range over finite types once `ex.P v` is seen to be `Fin 2`
  let _ : ∀ v, Fintype (ex.P v) := fun _ => inferInstanceAs (Fintype (Fin 2))
  decide

end RenoVerif.TreeQN
