/-
  C20 — property theorems: weak duality (any vertex cover is at least as large as any
  matching) and soundness of the certificate checker that is run on the REAL outputs of
  `bipartite_vertex_cover` for both algorithms.
-/
import RenoVerif.Model.Cover
import RenoVerif.Lemmas.List
import Batteries.Data.List.Perm

namespace RenoVerif.Cover

theorem lt_of_getD_true (c : List Bool) (i : Nat) (h : c.getD i false = true) : i < c.length :=
  lt_of_getD_ne fun h0 => nomatch h.symm.trans h0

theorem getD_replicate_true {n i : Nat} (h : i < n) : (List.replicate n true).getD i false = true := by
  rw [List.getD_eq_getElem?_getD, List.getElem?_replicate, if_pos h]
  rfl

theorem getD_set_true_iff (l : List Bool) (i j : Nat) :
    (l.set j true).getD i false = true ↔ (i = j ∧ j < l.length) ∨ l.getD i false = true := by
  by_cases h : i = j
  · subst h
    by_cases hi : i < l.length
    · exact ⟨fun _ => .inl ⟨rfl, hi⟩, fun _ => by rw [List.getD_eq_getElem?_getD, List.getElem?_set_self hi]; rfl⟩
    · rw [List.set_eq_of_length_le (Nat.le_of_not_lt hi)]
      exact ⟨.inr, fun h => h.resolve_left fun h' => hi h'.2⟩
  · rw [List.getD_eq_getElem?_getD, List.getElem?_set_ne (Ne.symm h), ← List.getD_eq_getElem?_getD]
    exact ⟨.inr, fun h' => h'.resolve_left fun hij => h hij.1⟩

theorem nodup_true_le (c : List Bool) (l : List Nat) (hn : l.Nodup)
    (ht : ∀ i ∈ l, c.getD i false = true) : l.length ≤ countTrue c :=
  (List.subperm_of_subset hn fun i hi =>
    List.mem_filter.mpr ⟨List.mem_range.mpr (lt_of_getD_true c i (ht i hi)), ht i hi⟩).length_le

theorem countP_le_countTrue {α : Type _} (ps : List α) (f : α → Nat) (q : α → Bool) (c : List Bool)
    (hn : (ps.map f).Nodup) (ht : ∀ e ∈ ps, q e = true → c.getD (f e) false = true) :
    ps.countP q ≤ countTrue c := by
  rw [List.countP_eq_length_filter, ← List.length_map f]
  refine nodup_true_le c _ (hn.sublist (List.filter_sublist.map f)) fun i hi => ?_
  obtain ⟨e, he, rfl⟩ := List.mem_map.mp hi
  obtain ⟨he, hq⟩ := List.mem_filter.mp he
  exact ht e he hq

/-- **Weak duality.**  If `ps` is a matching (no `U` vertex and no `V` vertex used twice) all
    of whose edges are covered by `(cU, cV)`, then `|ps| ≤ |cover|`. -/
theorem weak_duality (ps : List (Nat × Nat)) (cU cV : List Bool)
    (hu : (ps.map (·.1)).Nodup) (hv : (ps.map (·.2)).Nodup)
    (hc : ∀ e ∈ ps, coversEdge cU cV e = true) :
    ps.length ≤ countTrue cU + countTrue cV := by
  -- the edges covered on the `U` side are counted in `cU` by their `U` ends, the others in `cV` by their `V` ends
  rw [List.length_eq_countP_add_countP fun e => cU.getD e.1 false]
  refine Nat.add_le_add (countP_le_countTrue ps (·.1) _ cU hu fun _ _ h => h)
    (countP_le_countTrue ps (·.2) _ cV hv fun e he h => ?_)
  exact ((Bool.or_eq_true _ _).mp (hc e he)).resolve_left (of_decide_eq_true h)

theorem mem_edgesOf_iff (g : Graph) (e : Nat × Nat) : e ∈ edgesOf g ↔ e.2 ∈ g.getD e.1 [] := by
  constructor
  · intro h
    obtain ⟨⟨adj, u⟩, hmem, h⟩ := List.mem_flatMap.mp h
    obtain ⟨v, hv, rfl⟩ := List.mem_map.mp h
    rw [List.mem_zipIdx_iff_getElem?] at hmem
    rw [List.getD_eq_getElem?_getD, hmem]
    exact hv
  · intro h
    have hu : e.1 < g.length := lt_of_getD_ne (List.ne_nil_of_mem h)
    rw [← List.getElem_eq_getD (h := hu)] at h
    exact List.mem_flatMap.mpr ⟨(g[e.1], e.1), List.mem_zipIdx_iff_getElem?.mpr (List.getElem?_eq_getElem hu),
      List.mem_map.mpr ⟨e.2, h, rfl⟩⟩

theorem mem_edgesOf (g : Graph) (e : Nat × Nat) (h : isEdge g e = true) : e ∈ edgesOf g :=
  (mem_edgesOf_iff g e).mpr (List.contains_iff_mem.mp h)

theorem edge_u_lt (g : Graph) (e : Nat × Nat) (he : e ∈ edgesOf g) : e.1 < g.length :=
  lt_of_getD_ne (List.ne_nil_of_mem ((mem_edgesOf_iff g e).mp he))

def IsCover (g : Graph) (cU cV : List Bool) : Prop := ∀ e ∈ edgesOf g, coversEdge cU cV e = true

/-- a matching of `g`: edges of `g`, no endpoint repeated -/
def IsMatching (g : Graph) (ps : List (Nat × Nat)) : Prop :=
  (∀ e ∈ ps, e ∈ edgesOf g) ∧ (ps.map (·.1)).Nodup ∧ (ps.map (·.2)).Nodup

/-- any cover is at least as large as any matching -/
theorem cover_ge_matching (g : Graph) (ps : List (Nat × Nat)) (cU cV : List Bool)
    (hm : IsMatching g ps) (hc : IsCover g cU cV) : ps.length ≤ countTrue cU + countTrue cV :=
  weak_duality ps cU cV hm.2.1 hm.2.2 (fun e he => hc e (hm.1 e he))

/-- **Soundness of the certificate checker.**  If `checkCert` accepts the implementation's cover
    together with a matching table, then the cover touches every edge, it is a MINIMUM vertex
    cover, the matching is a MAXIMUM matching, and |cover| = |matching| (König). -/
theorem checkCert_sound (g : Graph) (cU cV : List Bool) (m : List (Option Nat))
    (h : checkCert g cU cV m = true) :
    IsCover g cU cV ∧ IsMatching g (pairs m) ∧
    countTrue cU + countTrue cV = (pairs m).length ∧
    (∀ cU' cV', IsCover g cU' cV' → countTrue cU + countTrue cV ≤ countTrue cU' + countTrue cV') ∧
    (∀ ps', IsMatching g ps' → ps'.length ≤ (pairs m).length) := by
  unfold checkCert at h
  simp only [Bool.and_eq_true, List.all_eq_true, decide_eq_true_eq, beq_iff_eq] at h
  obtain ⟨⟨⟨⟨he, hu⟩, hv⟩, hC⟩, hsz⟩ := h
  have hM : IsMatching g (pairs m) := ⟨fun e h => mem_edgesOf g e (he e h), hu, hv⟩
  refine ⟨hC, hM, hsz, ?_, ?_⟩
  · intro cU' cV' hc'
    rw [hsz]; exact cover_ge_matching g _ cU' cV' hM hc'
  · intro ps' hm'
    rw [← hsz]; exact cover_ge_matching g ps' cU cV hm' hC

-- non-vacuity: a path graph u0–v0–u1–v1 has cover {v0, u1}… accepted; a non-cover is rejected
example : checkCert [[0],[0,1]] [false,true] [true,false] [some 0, some 1] = true := by decide +kernel
example : checkCert [[0],[0,1]] [false,true] [false,false] [some 0, some 1] = false := by decide +kernel
example : (coverHungarian [[0],[0,1]]).toOption = some ([true,true],[false,false]) := by decide +kernel
example : (coverHungarian [[0,1],[0],[0]]).toOption = some ([true,false,false],[true,false]) := by decide +kernel

/-! ### the König closure model itself: whenever `new_konig` returns (none of its assertions
    fires), the returned tables cover every edge — for every graph and every matching table. -/

/-- the loop invariant: every neighbour of a visited `U` vertex is visited -/
def AllMarked (g : Graph) (vU vV : List Bool) : Prop :=
  ∀ u, vU.getD u false = true → ∀ v ∈ g.getD u [], vV.getD v false = true

/-- the neighbours have to be in range (`hb`): `set` beyond the end of the table marks nothing -/
theorem scan_spec (matchV : List (Option Nat)) (vs wait : List Nat) (vV : List Bool) (wait' : List Nat)
    (vV' : List Bool) (hb : ∀ v ∈ vs, v < vV.length) (h : scan matchV vs wait vV = .ok (wait', vV')) :
    vV'.length = vV.length ∧ (∀ i, vV.getD i false = true → vV'.getD i false = true) ∧
    ∀ v ∈ vs, vV'.getD v false = true := by
  fun_induction scan matchV vs wait vV with
  | case1 => -- no neighbour left
    cases h
    exact ⟨rfl, fun _ hi => hi, nofun⟩
  | case2 v vs wait vV hmark ih => -- `v` marked already
    obtain ⟨hlen, hold, hnew⟩ := ih (fun x hx => hb x (List.mem_cons_of_mem v hx)) h
    exact ⟨hlen, hold, List.forall_mem_cons.mpr ⟨hold v hmark, hnew⟩⟩
  | case3 => cases h -- `v` unmatched: assertion
  | case4 => cases h -- partner of `v` waiting already: assertion
  | case5 v vs wait vV _ vV1 u' _ _ ih => -- `v` marked here, its partner `u'` queued
    obtain ⟨hlen, hold, hnew⟩ :=
      ih (fun x hx => Nat.lt_of_lt_of_eq (hb x (List.mem_cons_of_mem v hx)) List.length_set.symm) h
    have hv : vV1.getD v false = true := (getD_set_true_iff vV v v).mpr (.inl ⟨rfl, hb v List.mem_cons_self⟩)
    exact ⟨hlen.trans List.length_set, fun i hi => hold i ((getD_set_true_iff vV i v).mpr (.inr hi)),
      List.forall_mem_cons.mpr ⟨hold v hv, hnew⟩⟩

/-- the worklist plays no part: whatever it holds, a `U` vertex is marked only after its neighbours are -/
theorem konigLoop_spec (g : Graph) (matchV : List (Option Nat)) (nV : Nat) (hg : ∀ adj ∈ g, ∀ v ∈ adj, v < nV)
    (fuel : Nat) (wait : List Nat) (vU vV vU' vV' : List Bool) (hlen : vV.length = nV) (hinv : AllMarked g vU vV)
    (h : konigLoop g matchV fuel wait vU vV = .ok (vU', vV')) : AllMarked g vU' vV' := by
  fun_induction konigLoop g matchV fuel wait vU vV with
  | case1 => cases h
  | case2 =>
    cases h
    exact hinv
  | case3 => cases h
  | case4 fuel u wait vU vV wait1 vV1 hscan ih =>
    have hadj : ∀ v ∈ g.getD u [], v < nV := getD_elim (d := []) hg (fun _ hv => nomatch hv) u
    obtain ⟨hlen1, hold, hnew⟩ := scan_spec matchV (g.getD u []) wait vV wait1 vV1 (hlen ▸ hadj) hscan
    refine ih (hlen1.trans hlen) ?_ h
    intro u0 hu0 v hv
    rcases (getD_set_true_iff vU u0 u).mp hu0 with ⟨rfl, _⟩ | hu0
    · exact hnew v hv
    · exact hold v (hinv u0 hu0 v hv)

/-- `konig_cover` without what it does not need: nothing is asked of the `U` side, since an index beyond
    `cU` reads as covered -/
theorem konig_covers (g : Graph) (nU nV : Nat) (matchV : List (Option Nat)) (cU cV : List Bool)
    (hg : ∀ adj ∈ g, ∀ v ∈ adj, v < nV) (h : konig g nU nV matchV = .ok (cU, cV)) :
    ∀ u, ∀ v ∈ g.getD u [], cU.getD u true = true ∨ cV.getD v false = true := by
  revert h
  fun_cases konig g nU nV matchV with
  | case1 => nofun
  | case2 _ _ vU vV hloop =>
    intro h
    cases h
    have hinv : AllMarked g vU cV := by
      refine konigLoop_spec g matchV nV hg _ _ _ _ vU cV List.length_replicate ?_ hloop
      -- at the start no `U` vertex is marked
      intro u hu
      rw [getD_elim (P := (· = false)) (fun _ hx => List.eq_of_mem_replicate hx) rfl u] at hu
      cases hu
    intro u v hv
    cases hvis : vU.getD u false with
    | true => exact .inr (hinv u hvis v hv)
    | false => exact .inl ((getD_map (!·) vU false u).trans (congrArg (!·) hvis))

/-- **König closure returns a cover** (for every graph, every matching table, whatever the order in
    which the worklist is processed here: the set-`pop` order of the code only permutes it) -/
theorem konig_cover (g : Graph) (nU nV : Nat) (matchV : List (Option Nat)) (cU cV : List Bool)
    (hg : ∀ adj ∈ g, ∀ v ∈ adj, v < nV) (hgl : g.length ≤ nU)
    (hm : ∀ o ∈ matchV, ∀ u, o = some u → u < nU)
    (h : konig g nU nV matchV = .ok (cU, cV)) :
    ∀ u, u < nU → ∀ v ∈ g.getD u [], cU.getD u true = true ∨ cV.getD v false = true :=
  fun u _ => konig_covers g nU nV matchV cU cV hg h u

/-! ### consequence for operator bonds: a certified minimum cover is no larger than either side of the incidence matrix -/

theorem countTrue_replicate (n : Nat) : countTrue (List.replicate n true) = n := by
  unfold countTrue trueIdx
  rw [List.filter_eq_self.mpr, List.length_range, List.length_replicate]
  intro i hi
  rw [List.length_replicate, List.mem_range] at hi
  exact getD_replicate_true hi

theorem countTrue_nil : countTrue [] = 0 := rfl

/-- **the bond dimension never exceeds the number of distinct left partial terms** (rows of the incidence matrix): a
    certified minimum cover is no larger than the set of all U vertices -/
theorem minCover_le_rows (g : Graph) (cU cV : List Bool) (m : List (Option Nat)) (h : checkCert g cU cV m = true) :
    countTrue cU + countTrue cV ≤ g.length := by
  have hmin := (checkCert_sound g cU cV m h).2.2.2.1 (List.replicate g.length true) [] fun e he =>
    (Bool.or_eq_true _ _).mpr (.inl (getD_replicate_true (edge_u_lt g e he)))
  rwa [countTrue_replicate, countTrue_nil, Nat.add_zero] at hmin

/-- … nor the number of distinct right partial terms (columns) -/
theorem minCover_le_cols (g : Graph) (cU cV : List Bool) (m : List (Option Nat)) (h : checkCert g cU cV m = true)
    (nV : Nat) (hV : ∀ e ∈ edgesOf g, e.2 < nV) : countTrue cU + countTrue cV ≤ nV := by
  have hmin := (checkCert_sound g cU cV m h).2.2.2.1 [] (List.replicate nV true) fun e he =>
    (Bool.or_eq_true _ _).mpr (.inr (getD_replicate_true (hV e he)))
  rwa [countTrue_replicate, countTrue_nil, Nat.zero_add] at hmin

end RenoVerif.Cover
