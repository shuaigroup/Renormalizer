/-
  C17 — the Jordan–Wigner ladder operators satisfy the canonical anticommutation relations, for
  EVERY number of orbitals.

  `generate_ladder_operator` builds `a_j = (Π_{l<j} Z_l) · s_j` and `a†_j = (Π_{l<j} Z_l) · s†_j`
  from site operators.  In any ring, if the site operators obey the one-site relations
  (`Z² = 1`, `Z s = − s Z`, `s² = 0`, `s s† + s† s = 1`) and operators on different sites commute,
  then `{a_i, a†_j} = δ_ij`, `{a_i, a_j} = 0`, `{a†_i, a†_j} = 0` for all `i, j`.
  By the universal property of the CAR algebra every polynomial in the `a, a†` — in particular
  the second-quantised Hamiltonian of `qc_model` — therefore acts as the fermionic operator with
  the same coefficients in the same orbital order; the one-site relations are proved for the
  2×2 matrices of `Props/C17.lean`.
-/
import RenoVerif.Props.C17
import Mathlib.Algebra.Group.Commute.Defs
import Mathlib.Algebra.Ring.Commute
import Mathlib.Algebra.BigOperators.Group.List.Basic
import Mathlib.Tactic.IntervalCases

namespace RenoVerif.JW.CAR

/-- site operators of a spin chain: `Z i`, `s i` (the code's "+") and `sd i` (the code's "-") -/
structure SiteOps (A : Type) [Ring A] where
  n : ℕ                      -- number of (spin) orbitals = sites
  Z : ℕ → A
  s : ℕ → A
  sd : ℕ → A
  zz : ∀ i, i < n → Z i * Z i = 1
  zs : ∀ i, i < n → Z i * s i = -(s i * Z i)
  zsd : ∀ i, i < n → Z i * sd i = -(sd i * Z i)
  ss : ∀ i, i < n → s i * s i = 0
  sdsd : ∀ i, i < n → sd i * sd i = 0
  anti : ∀ i, i < n → s i * sd i + sd i * s i = 1
  cZZ : ∀ i j, i < n → j < n → i ≠ j → Commute (Z i) (Z j)
  cZs : ∀ i j, i < n → j < n → i ≠ j → Commute (Z i) (s j)
  cZsd : ∀ i j, i < n → j < n → i ≠ j → Commute (Z i) (sd j)
  css : ∀ i j, i < n → j < n → i ≠ j → Commute (s i) (s j)
  cssd : ∀ i j, i < n → j < n → i ≠ j → Commute (s i) (sd j)
  csdsd : ∀ i j, i < n → j < n → i ≠ j → Commute (sd i) (sd j)

variable {A : Type} [Ring A] (O : SiteOps A)

/-- the σz string `Z_0 Z_1 … Z_{j-1}` -/
def str (j : ℕ) : A := ((List.range j).map O.Z).prod
def a (j : ℕ) : A := str O j * O.s j
def ad (j : ℕ) : A := str O j * O.sd j

theorem str_zero : str O 0 = 1 := by simp [str]
theorem str_succ (j : ℕ) : str O (j + 1) = str O j * O.Z j := by
  simp [str, List.range_succ]

theorem cZZ_all (i j : ℕ) (hi : i < O.n) (hj : j < O.n) : Commute (O.Z i) (O.Z j) := by
  by_cases h : i = j
  · subst h; exact Commute.refl _
  · exact O.cZZ i j hi hj h

theorem str_commute (j : ℕ) (x : A) (h : ∀ k < j, Commute (O.Z k) x) : Commute (str O j) x := by
  induction j with
  | zero => rw [str_zero]; exact Commute.one_left x
  | succ j ih =>
    rw [str_succ]
    exact Commute.mul_left (ih fun k hk => h k (Nat.lt_succ_of_lt hk)) (h j (Nat.lt_succ_self j))

theorem Z_commute_str (k j : ℕ) (hk : k < O.n) (hj : j ≤ O.n) : Commute (O.Z k) (str O j) :=
  (str_commute O j (O.Z k) fun l hl => cZZ_all O l k (hl.trans_le hj) hk).symm

theorem str_commute_str (i j : ℕ) (hi : i ≤ O.n) (hj : j ≤ O.n) : Commute (str O i) (str O j) :=
  str_commute O i (str O j) fun k hk => Z_commute_str O k j (hk.trans_le hi) hj

theorem str_sq (j : ℕ) (hj : j ≤ O.n) : str O j * str O j = 1 := by
  induction j with
  | zero => rw [str_zero, one_mul]
  | succ j ih =>
    have hj' : j ≤ O.n := Nat.le_of_succ_le hj
    rw [str_succ, (Z_commute_str O j j hj hj').mul_mul_mul_comm, ih hj', O.zz j hj, one_mul]

/-- What the string has to know of `s i` and `sd i`: `x` is a parity-odd operator of site `i`
    (`SemiconjBy z x (-x)` says `z * x = -x * z`). -/
structure OddAt (i : ℕ) (x : A) : Prop where
  anti : SemiconjBy (O.Z i) x (-x)
  comm : ∀ k < O.n, k ≠ i → Commute (O.Z k) x

section
variable {O} {i j : ℕ} {x y : A}

theorem oddAt_s (hi : i < O.n) : OddAt O i (O.s i) :=
  ⟨(O.zs i hi).trans (neg_mul _ _).symm, fun k hk hne => O.cZs k i hk hi hne⟩

theorem oddAt_sd (hi : i < O.n) : OddAt O i (O.sd i) :=
  ⟨(O.zsd i hi).trans (neg_mul _ _).symm, fun k hk hne => O.cZsd k i hk hi hne⟩

theorem OddAt.commute_str (hx : OddAt O i x) (hji : j ≤ i) (hi : i < O.n) : Commute x (str O j) :=
  (str_commute O j x fun k hk => hx.comm k ((hk.trans_le hji).trans hi) (hk.trans_le hji).ne).symm

theorem OddAt.str_semiconj (hx : OddAt O i x) (hij : i < j) (hjn : j ≤ O.n) :
    SemiconjBy (str O j) x (-x) := by
  -- of the factors of `str O j` only `Z i` anticommutes with `x`
  induction j, hij using Nat.le_induction with
  | base =>
    rw [str_succ]
    exact SemiconjBy.mul_left (hx.commute_str le_rfl hjn).symm.neg_right hx.anti
  | succ j hij ih =>
    rw [str_succ]
    exact SemiconjBy.mul_left (ih (Nat.le_of_succ_le hjn)) (hx.comm j hjn (Nat.lt_of_succ_le hij).ne')

theorem anticomm_lt (hij : i < j) (hjn : j < O.n) (hx : OddAt O i x) (hy : OddAt O j y) (hxy : Commute x y) :
    (str O i * x) * (str O j * y) + (str O j * y) * (str O i * x) = 0 := by
  have hstr : SemiconjBy (str O j) (str O i * x) (str O i * -x) :=
    SemiconjBy.mul_right (str_commute_str O j i hjn.le (hij.trans hjn).le) (hx.str_semiconj hij hjn.le)
  have hy' : Commute y (str O i * x) := (hy.commute_str hij.le hjn).mul_right hxy.symm
  rw [(hstr.mul_left hy').eq, mul_neg, neg_mul, add_neg_cancel]

theorem anticomm_ne (hij : i ≠ j) (hin : i < O.n) (hjn : j < O.n) (hx : OddAt O i x) (hy : OddAt O j y)
    (hxy : Commute x y) : (str O i * x) * (str O j * y) + (str O j * y) * (str O i * x) = 0 := by
  rcases Nat.lt_or_gt_of_ne hij with h | h
  · exact anticomm_lt h hjn hx hy hxy
  · rw [add_comm]; exact anticomm_lt h hin hy hx hxy.symm

theorem same_site (hi : i < O.n) (hx : OddAt O i x) (y : A) : (str O i * x) * (str O i * y) = x * y := by
  rw [(hx.commute_str le_rfl hi).mul_mul_mul_comm, str_sq O i hi.le, one_mul]

end

/-- **CAR, all pairs of orbitals of a chain of any length**:
    `{a_i, a†_j} = δ_ij`, `{a_i, a_j} = 0`, `{a†_i, a†_j} = 0` -/
theorem car (i j : ℕ) (hi : i < O.n) (hj : j < O.n) :
    a O i * ad O j + ad O j * a O i = (if i = j then 1 else 0) ∧
    a O i * a O j + a O j * a O i = 0 ∧ ad O i * ad O j + ad O j * ad O i = 0 := by
  have hs := oddAt_s hi
  have hsd := oddAt_sd hi
  by_cases h : i = j
  · subst h
    unfold a ad
    refine ⟨?_, ?_, ?_⟩
    · rw [if_pos rfl, same_site hi hs, same_site hi hsd, O.anti i hi]
    · rw [same_site hi hs, O.ss i hi, add_zero]
    · rw [same_site hi hsd, O.sdsd i hi, add_zero]
  · rw [if_neg h]
    exact ⟨anticomm_ne h hi hj hs (oddAt_sd hj) (O.cssd i j hi hj h),
      anticomm_ne h hi hj hs (oddAt_s hj) (O.css i j hi hj h),
      anticomm_ne h hi hj hsd (oddAt_sd hj) (O.csdsd i j hi hj h)⟩

/-- number operators: `n_i = a†_i a_i = s†_i s_i` carries no string -/
theorem number_local (i : ℕ) (hi : i < O.n) : ad O i * a O i = O.sd i * O.s i :=
  same_site hi (oddAt_sd hi) (O.s i)

/-- the site operator a model symbol stands for -/
def siteOp : Nat × Sym → A
  | (k, .Z) => O.Z k
  | (k, .P) => O.s k
  | (k, .M) => O.sd k

/-- the symbol list of `generate_ladder_operator` (Model/JW `ladder`) multiplies out to `a_j` / `a†_j` -/
theorem ladder_prod (j : ℕ) : ((ladder j false).map (siteOp O)).prod = a O j ∧
    ((ladder j true).map (siteOp O)).prod = ad O j := by
  constructor <;> simp [ladder, a, ad, str, Function.comp_def, siteOp]

/-! ### the one-site relations hold for the 2×2 matrices of the implementation -/
open Matrix in
theorem one_site_relations :
    Sym.m .Z * Sym.m .Z = 1 ∧ Sym.m .Z * Sym.m .P = -(Sym.m .P * Sym.m .Z) ∧
    Sym.m .Z * Sym.m .M = -(Sym.m .M * Sym.m .Z) ∧ Sym.m .P * Sym.m .P = 0 ∧ Sym.m .M * Sym.m .M = 0 ∧
    Sym.m .P * Sym.m .M + Sym.m .M * Sym.m .P = 1 :=
  ⟨ZZ, Z_anti nofun, Z_anti nofun, by decide +kernel, by decide +kernel, by decide +kernel⟩

/-! ### non-vacuity: a genuine two-site chain in 4×4 integer matrices (Kronecker products) -/
abbrev M4 := Matrix (Fin 4) (Fin 4) ℤ
private def I2 : M2 := 1
/-- Kronecker product of two 2×2 matrices, row-major index `2·i₁ + i₂` -/
def kron (x y : M2) : M4 := fun i j =>
  x ⟨i.val / 2, by omega⟩ ⟨j.val / 2, by omega⟩ * y ⟨i.val % 2, by omega⟩ ⟨j.val % 2, by omega⟩

def site2 (x : M2) (k : ℕ) : M4 := if k = 0 then kron x I2 else kron I2 x

def twoSites : SiteOps M4 where
  n := 2
  Z := site2 (Sym.m .Z)
  s := site2 (Sym.m .P)
  sd := site2 (Sym.m .M)
  zz := by intro i hi; interval_cases i <;> decide +kernel
  zs := by intro i hi; interval_cases i <;> decide +kernel
  zsd := by intro i hi; interval_cases i <;> decide +kernel
  ss := by intro i hi; interval_cases i <;> decide +kernel
  sdsd := by intro i hi; interval_cases i <;> decide +kernel
  anti := by intro i hi; interval_cases i <;> decide +kernel
  cZZ := by intro i j hi hj h; interval_cases i <;> interval_cases j <;> first | omega | (unfold Commute SemiconjBy; decide +kernel)
  cZs := by intro i j hi hj h; interval_cases i <;> interval_cases j <;> first | omega | (unfold Commute SemiconjBy; decide +kernel)
  cZsd := by intro i j hi hj h; interval_cases i <;> interval_cases j <;> first | omega | (unfold Commute SemiconjBy; decide +kernel)
  css := by intro i j hi hj h; interval_cases i <;> interval_cases j <;> first | omega | (unfold Commute SemiconjBy; decide +kernel)
  cssd := by intro i j hi hj h; interval_cases i <;> interval_cases j <;> first | omega | (unfold Commute SemiconjBy; decide +kernel)
  csdsd := by intro i j hi hj h; interval_cases i <;> interval_cases j <;> first | omega | (unfold Commute SemiconjBy; decide +kernel)

/-- the relations are not vacuous and not trivial: `a_1` carries the string (`a_1 ≠ s_1`) -/
example : a twoSites 0 * ad twoSites 1 + ad twoSites 1 * a twoSites 0 = 0 :=
  (car twoSites 0 1 (by decide) (by decide)).1
example : a twoSites 1 ≠ twoSites.s 1 := by decide +kernel

end RenoVerif.JW.CAR
