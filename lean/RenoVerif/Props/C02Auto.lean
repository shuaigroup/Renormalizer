/-
  C02 — contraction semantics of a symbolic TTNO (tree analogue of `automaton_eq_expand` of C01).

  `autoTree ι nodes` is what contracting the tree does: the operator `k` leaving node `i` is
      Σ_terms factor • (Π_children  value(child c, operator t.ins[c]))  *  ι i t.key
  in any `R`-algebra `A` (`ι i key` = the local operator `key` of node `i`, embedded in the operator
  algebra of the whole system; children are multiplied in child order, the node's own operator last —
  the order is immaterial for operators on different sites, and the theorem does not need that).
  `autoTree_eq_expand`: for every well-formed node list this value is the value of the formal
  expansion `expandTree` under `φ(row) = ordered product of ι over the nodes of the subtree in
  post-order`.  With `checkCert_sound` (Props/C02): an accepted certificate contracts to
  `Σ_k c_k • Π_nodes ι(node, key_k(node))`, i.e. the operator table, for every tree shape.
-/
import RenoVerif.Model.SymTree
import RenoVerif.Lemmas.FormalSum
import RenoVerif.Lemmas.List
import RenoVerif.Props.C02
import Mathlib.Algebra.Algebra.Basic
import Mathlib.Algebra.BigOperators.Group.List.Basic

namespace RenoVerif.SymTree
open RenoVerif.FS

variable {R A : Type} [CommRing R] [Ring A] [Algebra R A]

/-- ordered product of the local operators `ι node key` over a node list and a row of keys -/
def rowVal (ι : Nat → Nat → A) (s : List Nat) (row : Row) : A :=
  ((s.zip row).map fun vk => ι vk.1 vk.2).prod

theorem rowVal_append (ι : Nat → Nat → A) (s s' : List Nat) (r r' : Row) (h : r.length = s.length) :
    rowVal ι (s ++ s') (r ++ r') = rowVal ι s r * rowVal ι s' r' := by
  unfold rowVal
  rw [List.zip_append h.symm, List.map_append, List.prod_append]

/-- post-order node lists of all subtrees (node `i`'s subtree = its children's subtrees, then `i`) -/
def subsOf (nodes : List (Node R)) : List (List Nat) :=
  nodes.foldl (fun subs n => subs ++ [(n.children.flatMap fun c => subs.getD c []) ++ [subs.length]]) []

def kidsVal (done : List (List A)) (cs : List (Nat × Nat)) : A :=
  (cs.map fun ci => (done.getD ci.1 []).getD ci.2 0).prod

/-- contraction of one node: every outgoing operator from the incoming ones and the local operators -/
def autoNode (ι : Nat → Nat → A) (i : Nat) (done : List (List A)) (n : Node R) : List A :=
  n.ops.map fun o => (o.map fun t => t.factor • (kidsVal done (n.children.zip t.ins) * ι i t.key)).sum

def autoTree (ι : Nat → Nat → A) (nodes : List (Node R)) : List (List A) :=
  nodes.foldl (fun done n => done ++ [autoNode ι done.length done n]) []

theorem expandTree_snoc (nodes : List (Node R)) (n : Node R) :
    expandTree (nodes ++ [n]) = expandTree nodes ++ [expandNode (expandTree nodes) n] :=
  List.foldl_append

omit [CommRing R] in
theorem subsOf_snoc (nodes : List (Node R)) (n : Node R) :
    subsOf (nodes ++ [n]) = subsOf nodes
      ++ [(n.children.flatMap fun c => (subsOf nodes).getD c []) ++ [(subsOf nodes).length]] :=
  List.foldl_append

theorem autoTree_snoc (ι : Nat → Nat → A) (nodes : List (Node R)) (n : Node R) :
    autoTree ι (nodes ++ [n]) = autoTree ι nodes ++ [autoNode ι (autoTree ι nodes).length (autoTree ι nodes) n] :=
  List.foldl_append

theorem length_expandTree (nodes : List (Node R)) : (expandTree nodes).length = nodes.length :=
  (length_foldl_snoc _ nodes []).trans (Nat.zero_add _)

omit [CommRing R] in
theorem length_subsOf (nodes : List (Node R)) : (subsOf nodes).length = nodes.length :=
  (length_foldl_snoc _ nodes []).trans (Nat.zero_add _)

theorem length_autoTree (ι : Nat → Nat → A) (nodes : List (Node R)) : (autoTree ι nodes).length = nodes.length :=
  (length_foldl_snoc _ nodes []).trans (Nat.zero_add _)

/-- every term has one incoming index per child (part of `wellFormed`) -/
def ArityOk (nodes : List (Node R)) : Prop :=
  ∀ n ∈ nodes, ∀ o ∈ n.ops, ∀ t ∈ o, t.ins.length = n.children.length

omit [CommRing R] in
theorem arityOk_of_wellFormed (nodes : List (Node R)) (h : wellFormed nodes = true) : ArityOk nodes := by
  intro n hn o ho t ht
  rw [← List.zipIdx_map_fst 0 nodes] at hn
  obtain ⟨⟨n, i⟩, hmem, rfl⟩ := List.mem_map.1 hn
  have := List.all_eq_true.1 h (n, i) hmem
  simp only [Bool.and_eq_true, List.all_eq_true, beq_iff_eq] at this
  exact (this.2 o ho t ht).1

/-- `e` has one key per node of `s` in every row and denotes `a` as a sum of ordered products of local operators
    over `s` -/
abbrev DenT (ι : Nat → Nat → A) (s : List Nat) (e : FSum Row R) (a : A) : Prop := Den (rowVal ι s) s.length e a

variable (ι : Nat → Nat → A) {s s' : List Nat} {e e' : FSum Row R} {a a' : A}

theorem denT_one : DenT ι [] ([([], 1)] : FSum Row R) 1 := Den.one

variable {ι}

theorem DenT.mul (h : DenT ι s e a) (h' : DenT ι s' e' a') : DenT ι (s ++ s') (fsMul e e') (a * a') := by
  have := Den.fsMul (φ := rowVal ι (s ++ s'))
    (LinearMap.mk₂ R (fun x y : A => x * y) add_mul smul_mul_assoc mul_add mul_smul_comm)
    (fun r r' hr => rowVal_append ι s s' r r' hr) h h'
  rwa [← List.length_append] at this

theorem DenT.snoc (i key : Nat) (c : R) (h : DenT ι s e a) :
    DenT ι (s ++ [i]) (e.map fun p => (p.1 ++ [key], c * p.2)) (c • (a * ι i key)) := by
  have := Den.snoc (φ' := rowVal ι (s ++ [i])) (LinearMap.mulRight R (ι i key)) key c
    (fun r hr => (rowVal_append ι s [i] r [key] hr).trans (congrArg (rowVal ι s r * ·) List.prod_singleton)) h
  rwa [← List.length_singleton (a := i), ← List.length_append] at this

/-- the contraction `D` of the nodes done so far agrees with their expansions `E` over their subtrees `S` -/
def Agree (ι : Nat → Nat → A) (E : List (List (FSum Row R))) (S : List (List Nat)) (D : List (List A)) : Prop :=
  ∀ c k, DenT ι (S.getD c []) ((E.getD c []).getD k []) ((D.getD c []).getD k 0)

variable {E : List (List (FSum Row R))} {S : List (List Nat)} {D : List (List A)}

theorem Agree.kids (H : Agree ι E S D) (cs : List (Nat × Nat)) {sacc : List Nat} {acc : FSum Row R} {x : A}
    (h : DenT ι sacc acc x) :
    DenT ι (sacc ++ cs.flatMap fun ci => S.getD ci.1 [])
      (cs.foldl (fun acc ci => fsMul acc ((E.getD ci.1 []).getD ci.2 [])) acc) (x * kidsVal D cs) := by
  induction cs generalizing sacc acc x with
  | nil => rwa [List.flatMap_nil, List.append_nil, List.foldl_nil, kidsVal, List.map_nil, List.prod_nil, mul_one]
  | cons ci cs ih =>
    have := ih (h.mul (H ci.1 ci.2))
    rwa [List.append_assoc, mul_assoc] at this

theorem Agree.node (H : Agree ι E S D) (i : Nat) (n : Node R)
    (har : ∀ o ∈ n.ops, ∀ t ∈ o, t.ins.length = n.children.length) :
    List.Forall₂ (DenT ι ((n.children.flatMap fun c => S.getD c []) ++ [i])) (expandNode E n) (autoNode ι i D n) := by
  refine List.forall₂_map_left_iff.2 (List.forall₂_map_right_iff.2 (List.forall₂_same.2 fun o ho => ?_))
  refine Den.flatMap fun t ht => ?_
  have hz := congrArg (List.flatMap fun c => S.getD c [])
    (List.map_fst_zip (l₁ := n.children) (l₂ := t.ins) (har o ho t ht).ge)
  rw [List.flatMap_map] at hz
  have := (H.kids (n.children.zip t.ins) (denT_one ι)).snoc i t.key t.factor
  rwa [List.nil_append, one_mul, hz] at this

theorem Agree.snoc (H : Agree ι E S D) (hE : E.length = S.length) (hD : D.length = S.length) {e : List (FSum Row R)}
    {s : List Nat} {d : List A} (h : List.Forall₂ (DenT ι s) e d) : Agree ι (E ++ [e]) (S ++ [s]) (D ++ [d]) := by
  intro c k
  rw [getD_snoc, getD_snoc, getD_snoc, hE, hD]
  split
  · exact H c k
  · split
    · exact forall₂_getD h Den.nil k
    · exact Den.nil

theorem tree_agree (ι : Nat → Nat → A) (nodes : List (Node R)) (har : ArityOk nodes) :
    Agree ι (expandTree nodes) (subsOf nodes) (autoTree ι nodes) := by
  induction nodes using List.reverseRecOn with
  | nil => exact fun _ _ => Den.nil
  | append_singleton nodes n ih =>
    have ih := ih fun m hm => har m (List.mem_append_left _ hm)
    have hE := (length_expandTree nodes).trans (length_subsOf nodes).symm
    have hD := (length_autoTree ι nodes).trans (length_subsOf nodes).symm
    rw [expandTree_snoc, subsOf_snoc, autoTree_snoc, hD]
    exact ih.snoc hE hD (ih.node _ n (har n List.mem_concat_self))

/-- **contracting the tree = evaluating the formal expansion**, for every node and outgoing operator -/
theorem autoTree_eq_expand (ι : Nat → Nat → A) (nodes : List (Node R)) (h : wellFormed nodes = true)
    (c k : Nat) :
    ((autoTree ι nodes).getD c []).getD k 0
      = evalFS (rowVal ι ((subsOf nodes).getD c [])) (((expandTree nodes).getD c []).getD k []) :=
  (tree_agree ι nodes (arityOk_of_wellFormed nodes h) c k).2.symm

/-- **an accepted certificate contracts to the operator table**: for any rooted tree, any local
    operator embedding `ι` into any `R`-algebra, the root operator computed by the contraction is
    `Σ_k c_k • Π_{nodes in post-order} ι node key_k(node)`. -/
theorem accepted_tree_contracts [DecidableEq R] (ι : Nat → Nat → A) (table : FSum Row R) (nodes : List (Node R))
    (h : checkCert table nodes = true) :
    ((autoTree ι nodes).getD (nodes.length - 1) []).getD 0 0
      = evalFS (rowVal ι ((subsOf nodes).getD (nodes.length - 1) [])) table := by
  obtain ⟨w, hw, hφ⟩ := checkCert_sound (M := A) table nodes h
  have hwf : wellFormed nodes = true := by
    unfold checkCert at h
    rw [Bool.and_eq_true, Bool.and_eq_true] at h
    exact h.1.1
  rw [List.getLast?_eq_getElem?, length_expandTree] at hw
  rw [autoTree_eq_expand ι nodes hwf, ← hφ, List.getD_eq_getElem?_getD (l := expandTree nodes), hw]
  rfl

-- non-vacuity: the three-node example of Props/C02 in the algebra ℤ with ι node key = key + 1
private def exNodes2 : List (Node Int) :=
  [⟨[], [[⟨[], 1, 1⟩]]⟩, ⟨[], [[⟨[], 2, 2⟩, ⟨[], 3, 3⟩]]⟩, ⟨[0, 1], [[⟨[0, 0], 0, 1⟩]]⟩]
example : checkCert [([1, 2, 0], 2), ([1, 3, 0], 3)] exNodes2 = true := by decide +kernel
example : subsOf exNodes2 = [[0], [1], [0, 1, 2]] := by decide +kernel
example : autoTree (fun _ k => (k : Int) + 1) exNodes2 = [[2], [18], [36]] := by decide +kernel

end RenoVerif.SymTree
