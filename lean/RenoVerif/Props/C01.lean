/-
  C01 — property theorems.

  * `automaton_eq_expand`: an MPO read as a weighted automaton — site `j` acts on the partial
    operator by the LINEAR map `T j p` for primary operator `p` (for the dense case
    `T j p O = O ⊗ opmat_j p`) — evaluates, for EVERY certificate, every number of sites and every
    linear representation `T`, to the value of its symbolic expansion.
  * `checkCert_sound`: if the executable checker accepts the implementation's
    `symbolic_out_ops_list` against the operator table, the automaton value equals the value of
    the table, i.e. `Σ_k c_k · (T applied along term k)`.
-/
import RenoVerif.Model.SymMpo
import RenoVerif.Lemmas.FormalSum
import RenoVerif.Lemmas.List

namespace RenoVerif.SymMpo
open RenoVerif.FS

variable {R M : Type} [CommRing R] [AddCommGroup M] [Module R M]

/-- value of a row of primary operators: apply `T j p` site after site, starting at site `j0` -/
def val (T : Nat → Nat → M →ₗ[R] M) : Nat → M → Row → M
  | _, m, [] => m
  | j, m, p :: ps => val T (j+1) (T j p m) ps

theorem val_append (T : Nat → Nat → M →ₗ[R] M) (j : Nat) (m : M) (r : Row) (p : Nat) :
    val T j m (r ++ [p]) = T (j + r.length) p (val T j m r) := by
  induction r generalizing j m with
  | nil => rfl
  | cons q r ih =>
    rw [List.cons_append, val, ih, List.length_cons, Nat.add_assoc, Nat.add_comm 1]
    rfl

/-- the automaton: operators on bond `j+1` from those on bond `j` -/
def autoStep (T : Nat → Nat → M →ₗ[R] M) (j : Nat) (prev : List M) (ops : BondOps R) : List M :=
  ops.map fun o => (o.map fun t => t.factor • T j t.prim (prev.getD t.inIdx 0)).sum

def autoFrom (T : Nat → Nat → M →ₗ[R] M) : Nat → List M → List (BondOps R) → List M
  | _, prev, [] => prev
  | j, prev, ops :: rest => autoFrom T (j+1) (autoStep T j prev ops) rest

theorem step_correct (T : Nat → Nat → M →ₗ[R] M) (m0 : M) (j : Nat) {prev : List (FSum Row R)} {vals : List M}
    (h : List.Forall₂ (Den (val T 0 m0) j) prev vals) (ops : BondOps R) :
    List.Forall₂ (Den (val T 0 m0) (j + 1)) (expandStep prev ops) (autoStep T j vals ops) := by
  refine List.forall₂_map_left_iff.2 (List.forall₂_map_right_iff.2 (List.forall₂_same.2 fun o _ => ?_))
  refine Den.flatMap fun t _ => ?_
  exact (forall₂_getD h Den.nil t.inIdx).snoc (T j t.prim) t.prim t.factor fun r hr => by
    rw [val_append, hr, Nat.zero_add]

theorem autoFrom_correct (T : Nat → Nat → M →ₗ[R] M) (m0 : M) : ∀ (bonds : List (BondOps R)) (j : Nat)
    {prev : List (FSum Row R)} {vals : List M}, List.Forall₂ (Den (val T 0 m0) j) prev vals →
    autoFrom T j vals bonds = (bonds.foldl expandStep prev).map (evalFS (val T 0 m0))
  | [], _, _, _, h => (Den.map_eq h).symm
  | ops :: rest, j, _, _, h => autoFrom_correct T m0 rest (j + 1) (step_correct T m0 j h ops)

/-- **Automaton semantics of an MPO** (every certificate, every length, every representation). -/
theorem automaton_eq_expand (T : Nat → Nat → M →ₗ[R] M) (m0 : M) (bonds : List (BondOps R)) :
    autoFrom T 0 [m0] bonds = (expandAll bonds).map (evalFS (val T 0 m0)) :=
  autoFrom_correct T m0 bonds 0 (.cons Den.one .nil)

/-- **Soundness of the certificate checker.** If the checker accepts, the MPO automaton built
    from the implementation's bond operators evaluates to the value of the operator table:
    `Σ_rows factor • val(row)` — for every linear representation of the primary operators. -/
theorem checkCert_sound [DecidableEq R] (table : FSum Row R) (bonds : List (BondOps R))
    (h : checkCert table bonds = true) (T : Nat → Nat → M →ₗ[R] M) (m0 : M) :
    autoFrom T 0 [m0] bonds = [evalFS (val T 0 m0) table] := by
  unfold checkCert at h
  rw [Bool.and_eq_true] at h
  rw [automaton_eq_expand]
  split at h
  next w hw => rw [hw, List.map_cons, List.map_nil, eqv_sound w table h.2]
  next => cases h.2

/-- the two-site expansions agree ⇒ so do their values under any bilinear reading `B` of
    (operator on bond 1, prim at site 1, prim at site 2): the site-swap certificate -/
theorem checkSwap_sound [DecidableEq R] (old2 old3 new2 new3 : BondOps R)
    (h : checkSwap old2 old3 new2 new3 = true) (B : Nat × Nat × Nat → M) :
    (expand2 old2 old3).map (evalFS B)
      = (expand2 new2 new3).map (evalFS fun k => B (k.1, k.2.2, k.2.1)) := by
  unfold checkSwap at h
  simp only [Bool.and_eq_true, beq_iff_eq, List.all_eq_true] at h
  have hz : List.Forall₂ (fun a b => eqv a b = true) (expand2 old2 old3) _ :=
    List.forall₂_iff_zip.2 ⟨h.1, fun hab => h.2 _ hab⟩
  rw [List.forall₂_map_right_iff] at hz
  rw [← List.forall₂_eq_eq_eq, List.forall₂_map_left_iff, List.forall₂_map_right_iff]
  exact hz.imp fun a c hac => (eqv_sound _ _ hac B).trans (evalFS_map_key B (fun k => (k.1, k.2.2, k.2.1)) c)

-- non-vacuity: H = 2·A₁B₂ + 3·A₁C₂ as a bond-1 MPO  [A] – [2B+3C]; table rows [1,2]·2, [1,3]·3
private def exBonds : List (BondOps Int) :=
  [[[⟨0, 1, 1⟩]], [[⟨0, 2, 2⟩, ⟨0, 3, 3⟩]]]
example : checkCert [([1,2], 2), ([1,3], 3)] exBonds = true := by decide +kernel
example : checkCert [([1,2], 2), ([1,3], 4)] exBonds = false := by decide +kernel
example : checkCert [([1,3], 3), ([1,2], 1), ([1,2], 1)] exBonds = true := by decide +kernel

end RenoVerif.SymMpo
