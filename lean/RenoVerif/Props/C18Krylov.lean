/-
  C18 (Krylov exponential, algebraic part) — exactness on an invariant Krylov space.  If the Lanczos recurrence closes
  (`A V = V T`: "happy breakdown", start vectors in small invariant subspaces, diagonal / rank-deficient operators),
  then `p(A) V = V p(T)` for EVERY polynomial `p`, hence `p(A) v = β V p(T) e₁` for the start vector `v = β V e₁`: the
  small-matrix function evaluated by the routine reproduces the large one exactly on that space.  The analytic step
  (the exponential as a limit of polynomials, the a-posteriori error estimate for a non-closed recurrence) and the
  floating-point Lanczos process are not modelled: numerical contract (search_c18).
-/
import Mathlib.Algebra.Polynomial.AlgebraMap
import Mathlib.Data.Matrix.Basic

open Matrix Polynomial
namespace RenoVerif.Krylov

variable {n m : Type} [Fintype n] [Fintype m] [DecidableEq n] [DecidableEq m]
variable {K : Type} [CommRing K]

/-- an invariant Krylov basis: `A V = V T` (the Lanczos recurrence after a "happy breakdown": the residual vanishes and
    the tridiagonal matrix `T` represents `A` on the span of the columns of `V`) -/
theorem pow_intertwine (A : Matrix n n K) (T : Matrix m m K) (V : Matrix n m K) (h : A * V = V * T) (k : ℕ) :
    A ^ k * V = V * T ^ k := by
  induction k with
  | zero => simp only [pow_zero, Matrix.one_mul, Matrix.mul_one]
  | succ k ih => rw [pow_succ, Matrix.mul_assoc, h, ← Matrix.mul_assoc, ih, Matrix.mul_assoc, ← pow_succ]

/-- **exactness on an invariant Krylov space**: for every polynomial `p`, `p(A) V = V p(T)`; with the start vector
    `v = β V e₁` this is `p(A) v = β V p(T) e₁` — what the Krylov routine returns with `p` the (polynomial on the spectrum
    representing the) exponential.  No orthogonality of `V` is needed for this direction. -/
theorem poly_intertwine (A : Matrix n n K) (T : Matrix m m K) (V : Matrix n m K) (h : A * V = V * T) (p : K[X]) :
    (aeval A p) * V = V * (aeval T p) := by
  rw [aeval_eq_sum_range, aeval_eq_sum_range, Matrix.sum_mul, Matrix.mul_sum]
  exact Finset.sum_congr rfl fun k _ => by rw [Matrix.smul_mul, Matrix.mul_smul, pow_intertwine A T V h k]

theorem krylov_exact (A : Matrix n n K) (T : Matrix m m K) (V : Matrix n m K) (h : A * V = V * T) (p : K[X])
    (e : m → K) (β : K) : (aeval A p) *ᵥ (β • (V *ᵥ e)) = β • (V *ᵥ ((aeval T p) *ᵥ e)) := by
  rw [Matrix.mulVec_smul, Matrix.mulVec_mulVec, poly_intertwine A T V h p, ← Matrix.mulVec_mulVec]

/-- non-vacuity: a diagonal operator with the full identity basis (`V = 1`, `T = A`) closes the recurrence -/
example (A : Matrix (Fin 3) (Fin 3) ℚ) (p : Polynomial ℚ) (e : Fin 3 → ℚ) :
    (Polynomial.aeval A p) *ᵥ ((2 : ℚ) • ((1 : Matrix (Fin 3) (Fin 3) ℚ) *ᵥ e)) = (2 : ℚ) • ((1 : Matrix (Fin 3) (Fin 3) ℚ) *ᵥ ((Polynomial.aeval A p) *ᵥ e)) :=
  krylov_exact A A 1 ((Matrix.mul_one A).trans (Matrix.one_mul A).symm) p e 2

end RenoVerif.Krylov
