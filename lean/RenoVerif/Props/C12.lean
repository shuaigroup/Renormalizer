/-
  C12 — tree time evolution (partial).  The algebraic skeleton is shared with C09 (a Runge–Kutta
  step is a polynomial in the generator, for any module — tree states included) and C11 (state-sum
  amplitudes).  Proved here, for EVERY rooted tree with ordered children (models: `Model/TreeSweep.lean`):

  * two-site sweep `_tdvp_ps2_recursion_forward/backward`: exactly one two-site step per edge (`two_count`);
    the backward half sweep is the mirror image of the forward half sweep (`bwd_eq_reverse_fwd`);
  * one-site sweep `_tdvp_ps_forward/backward`: one one-site step per node and one zero-site step per edge in
    each half sweep (`ps1F_counts`); backward = reverse forward (`ps1B_eq_reverse_ps1F`);
  * hence one full step is a symmetric composition of the local flows: with all local times negated it is the
    inverse of itself (`ps1_step_time_reversible`, `ps2_step_time_reversible`) — the structural reason for
    second order; a sweep that visits the children in the same order in both halves (defect D29 of the pinned
    tree) is not of this form.

  Tie: `harness/c12.py` records the sequence of local propagations (function, node, sign of the time step) of the
  REAL sweeps on random trees and compares it with these models event by event (driver `Driver/C12.lean`).
-/
import Mathlib.Algebra.BigOperators.Group.List.Basic
import RenoVerif.Model.TreeSweep

namespace RenoVerif.TreeSweep

def countTwo (l : List Ev) : Nat := (l.filter fun e => match e with | .two _ => true | _ => false).length
def countOne (l : List Ev) : Nat := (l.filter fun e => match e with | .one _ => true | _ => false).length
def countK1 (l : List Ev) : Nat := (l.filter fun e => match e with | .k1 _ => true | _ => false).length
def countK0 (l : List Ev) : Nat := (l.filter fun e => match e with | .k0 _ => true | _ => false).length

theorem countTwo_append (a b : List Ev) : countTwo (a ++ b) = countTwo a + countTwo b := by
  unfold countTwo; rw [List.filter_append, List.length_append]
theorem countOne_append (a b : List Ev) : countOne (a ++ b) = countOne a + countOne b := by
  unfold countOne; rw [List.filter_append, List.length_append]
theorem countK1_append (a b : List Ev) : countK1 (a ++ b) = countK1 a + countK1 b := by
  unfold countK1; rw [List.filter_append, List.length_append]
theorem countK0_append (a b : List Ev) : countK0 (a ++ b) = countK0 a + countK0 b := by
  unfold countK0; rw [List.filter_append, List.length_append]
@[simp] theorem countTwo_nil : countTwo [] = 0 := rfl
@[simp] theorem countTwo_two (v : Nat) : countTwo [Ev.two v] = 1 := rfl
@[simp] theorem countTwo_one (v : Nat) : countTwo [Ev.one v] = 0 := rfl
@[simp] theorem countK1_nil : countK1 [] = 0 := rfl
@[simp] theorem countK0_nil : countK0 [] = 0 := rfl
@[simp] theorem countK1_k1 (v : Nat) : countK1 [Ev.k1 v] = 1 := rfl
@[simp] theorem countK1_k0 (v : Nat) : countK1 [Ev.k0 v] = 0 := rfl
@[simp] theorem countK0_k1 (v : Nat) : countK0 [Ev.k1 v] = 0 := rfl
@[simp] theorem countK0_k0 (v : Nat) : countK0 [Ev.k0 v] = 1 := rfl

/-- The loop body tells a leaf child from an inner one (`if child.children:` guards the recursive call, which asserts
    that there are children), but the sweep of a leaf is empty: both arms are `fwd false c`. -/
theorem fwdL_cons (root : Bool) (v : Nat) (c : T) (rest : List T) :
    fwdL root v (c :: rest) =
      fwd false c ++ [Ev.two c.id] ++ (if root && rest.isEmpty then [] else [Ev.one v]) ++ fwdL root v rest := by
  cases c with | node i ks => cases ks <;> rfl

theorem bwdL_cons (root : Bool) (v : Nat) (c : T) (rest : List T) :
    bwdL root v (c :: rest) =
      bwdL root v rest ++ (if root && rest.isEmpty then [] else [Ev.one v]) ++ [Ev.two c.id] ++ bwd false c := by
  cases c with | node i ks => cases ks <;> rfl

mutual
  /-- **every edge gets exactly one two-site step** -/
  theorem two_count (root : Bool) : ∀ t : T, countTwo (fwd root t) = edges t
    | .node v cs => two_countL root v cs
  theorem two_countL (root : Bool) (v : Nat) : ∀ cs : List T, countTwo (fwdL root v cs) = edgesL cs
    | [] => rfl
    | c :: rest => by
      simp only [fwdL_cons, edgesL, countTwo_append, two_count false c, two_countL root v rest, countTwo_two,
        apply_ite countTwo, countTwo_nil, countTwo_one, ite_self]
      omega
end

mutual
  /-- **two-site sweep: `bwd = reverse fwd`, for every rooted tree** -/
  theorem bwd_eq_reverse_fwd (root : Bool) : ∀ t : T, bwd root t = (fwd root t).reverse
    | .node v cs => bwdL_eq_reverse_fwdL root v cs
  theorem bwdL_eq_reverse_fwdL (root : Bool) (v : Nat) : ∀ cs : List T, bwdL root v cs = (fwdL root v cs).reverse
    | [] => rfl
    | c :: rest => by
      simp only [fwdL_cons, bwdL_cons, bwdL_eq_reverse_fwdL root v rest, bwd_eq_reverse_fwd false c,
        List.reverse_append, apply_ite List.reverse, List.reverse_nil, List.reverse_singleton, List.append_assoc]
end

mutual
  /-- one-site sweep: reversing the forward sweep of a subtree gives (unless it is the root) the zero-site step on its
      bond, followed by its backward sweep -/
  theorem ps1F_reverse (root : Bool) : ∀ t : T,
      (ps1F root t).reverse = (if root then [] else [Ev.k0 t.id]) ++ ps1B t
    | .node v cs => by
      rw [ps1F, ps1B, T.id, List.reverse_append, List.reverse_append, ps1FL_reverse cs, apply_ite List.reverse,
        List.reverse_nil, List.reverse_singleton, List.reverse_singleton, List.singleton_append]
  theorem ps1FL_reverse : ∀ cs : List T, (ps1FL cs).reverse = ps1BL cs
    | [] => rfl
    | c :: rest => by
      simp only [ps1FL, ps1BL, List.reverse_append, ps1FL_reverse rest, ps1F_reverse false c, Bool.false_eq_true,
        if_false, List.singleton_append]
end

/-- **one-site sweep: `backward = reverse forward`, for every rooted tree** -/
theorem ps1B_eq_reverse_ps1F (t : T) : ps1B t = (ps1F true t).reverse := by
  rw [ps1F_reverse true t]; rfl

mutual
  /-- every node is propagated once, every bond once, per half sweep (one-site scheme) -/
  theorem ps1F_counts (root : Bool) : ∀ t : T,
      countK1 (ps1F root t) = edges t + 1 ∧ countK0 (ps1F root t) = edges t + (if root then 0 else 1)
    | .node v cs => by
      simp only [ps1F, edges, countK1_append, countK0_append, ps1FL_counts cs, countK1_k1, countK0_k1,
        apply_ite countK1, apply_ite countK0, countK1_nil, countK0_nil, countK1_k0, countK0_k0, ite_self,
        Nat.add_zero, and_self]
  theorem ps1FL_counts : ∀ cs : List T, countK1 (ps1FL cs) = edgesL cs ∧ countK0 (ps1FL cs) = edgesL cs
    | [] => ⟨rfl, rfl⟩
    | c :: rest => by
      simp only [ps1FL, edgesL, countK1_append, countK0_append, ps1FL_counts rest, ps1F_counts false c,
        Bool.false_eq_true, if_false]
      omega
end

/-! ### symmetric composition ⇒ time reversibility

Local flows as elements of a group `G` (bijections of the set of represented states, `Equiv.Perm State`, or
invertible matrices in the linear case): `φ e` is the local propagation of event `e` over its time step, its inverse
the same propagation with the time step negated (true for each exact local exponential `exp(∓i τ/2 H_eff)`; the
Krylov kernel that computes it is C18's contract).  One full step composes the forward half sweep and then the
backward half sweep.  Because the backward event list is the reverse of the forward one, the step with all local
times negated is the inverse of the step: the integrator is symmetric (self-adjoint), hence of even order. -/

/-- composition of the local flows of an event list, first event applied first (rightmost factor) -/
def compose {G : Type} [Group G] (φ : Ev → G) (l : List Ev) : G := (l.reverse.map φ).prod

theorem compose_inv {G : Type} [Group G] (φ : Ev → G) (l : List Ev) :
    (compose φ l)⁻¹ = compose (fun e => (φ e)⁻¹) l.reverse := by
  unfold compose
  rw [List.prod_inv_reverse, List.map_map, ← List.map_reverse]
  rfl

theorem compose_palindrome_inv {G : Type} [Group G] (φ : Ev → G) (l : List Ev) :
    compose (fun e => (φ e)⁻¹) (l ++ l.reverse) = (compose φ (l ++ l.reverse))⁻¹ := by
  rw [compose_inv, List.reverse_append, List.reverse_reverse]

/-- **one-site scheme: `S(−τ) = S(τ)⁻¹`** -/
theorem ps1_step_time_reversible {G : Type} [Group G] (φ : Ev → G) (t : T) :
    compose (fun e => (φ e)⁻¹) (ps1F true t ++ ps1B t) = (compose φ (ps1F true t ++ ps1B t))⁻¹ := by
  rw [ps1B_eq_reverse_ps1F]; exact compose_palindrome_inv φ _

/-- **two-site scheme: `S(−τ) = S(τ)⁻¹`** -/
theorem ps2_step_time_reversible {G : Type} [Group G] (φ : Ev → G) (t : T) :
    compose (fun e => (φ e)⁻¹) (fwd true t ++ bwd true t) = (compose φ (fwd true t ++ bwd true t))⁻¹ := by
  rw [bwd_eq_reverse_fwd]; exact compose_palindrome_inv φ _

/-- the property is not vacuous and not automatic: a backward sweep that keeps the children order (D29) differs -/
private def ex : T := .node 0 [.node 1 [], .node 2 [.node 3 []]]
example : fwd true ex = [.two 1, .one 0, .two 3, .one 2, .two 2] := by decide +kernel
example : countTwo (fwd true ex) = 3 := by decide +kernel
example : bwd true ex = [.two 2, .one 2, .two 3, .one 0, .two 1] := by decide +kernel
example : ps1F true ex = [.k1 1, .k0 1, .k1 3, .k0 3, .k1 2, .k0 2, .k1 0] := by decide +kernel
example : ps1B ex = [.k1 0, .k0 2, .k1 2, .k0 3, .k1 3, .k0 1, .k1 1] := by decide +kernel
example : ps1F true (build [[1, 2], [], [3], []] 3 0) = ps1F true ex := by decide +kernel
/-- the D29 order (children forward in the backward sweep) is NOT the mirror image -/
example : ([.k1 0, .k0 1, .k1 1, .k0 2, .k1 2, .k0 3, .k1 3] : List Ev) ≠ (ps1F true ex).reverse := by decide +kernel

end RenoVerif.TreeSweep
