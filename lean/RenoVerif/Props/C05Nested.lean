/-
  C05 (multi-bond part) — sequential truncation accumulates in quadrature.  Abstract Hilbert-space statement: nested
  orthogonal projections `Q 0 = id ⊇ Q 1 ⊇ …` (what the truncations of a compression sweep are when the state is kept
  in canonical form: C04 isometries) give  ‖x − Q n x‖² = Σ_k ‖Q k x − Q (k+1) x‖²  exactly, hence the result is not
  longer than the original, the total error dominates every local discarded weight and equals their root-sum-square.
  Tie (harness/c05.py, `l2_quadrature`): on real `compress` sweeps of canonical chains the recorded locally discarded
  weights (σ beyond `m_trunc` in every `_update_ms` call) must add up in quadrature to the dense distance.
  Not proved: that the locally discarded weights are bounded by those of the ORIGINAL state at the same bond
  (interlacing of singular values under contraction) – the search compares with the original spectra numerically.
-/
import Mathlib.Analysis.InnerProductSpace.Basic
import Mathlib.Algebra.BigOperators.Group.Finset.Basic
import Mathlib.Algebra.Order.BigOperators.Group.Finset

open Finset
namespace RenoVerif.Trunc

variable {𝕜 E : Type} [RCLike 𝕜] [NormedAddCommGroup E] [InnerProductSpace 𝕜 E]
local notation "⟪" x ", " y "⟫" => inner 𝕜 x y

/-- an orthogonal projection: self-adjoint idempotent linear map -/
structure IsOrthProj (P : E →ₗ[𝕜] E) : Prop where
  sa : ∀ x y, ⟪P x, y⟫ = ⟪x, P y⟫
  idem : ∀ x, P (P x) = P x

theorem IsOrthProj.pythagoras {P : E →ₗ[𝕜] E} (hP : IsOrthProj (𝕜 := 𝕜) P) (x y : E) (hy : P y = y) :
    ‖x - y‖ ^ 2 = ‖x - P x‖ ^ 2 + ‖P x - y‖ ^ 2 := by
  rw [← sub_add_sub_cancel x (P x) y, sq, sq, sq]
  refine norm_add_sq_eq_norm_sq_add_norm_sq_of_inner_eq_zero (𝕜 := 𝕜) (x - P x) (P x - y) ?_
  -- `P x - y = P (x - y)` lies in the range of `P`, and `P (x - P x) = 0`
  rw [← hy, ← P.map_sub, ← hP.sa, P.map_sub, hP.idem, sub_self, inner_zero_left]

theorem IsOrthProj.norm_le {P : E →ₗ[𝕜] E} (hP : IsOrthProj (𝕜 := 𝕜) P) (x : E) : ‖P x‖ ≤ ‖x‖ := by
  -- ‖P x‖² ≤ ‖x − P x‖² + ‖P x‖² = ‖x‖²
  have h := hP.pythagoras x 0 P.map_zero
  rw [sub_zero, sub_zero] at h
  exact le_of_sq_le_sq ((le_add_of_nonneg_left (sq_nonneg ‖x - P x‖)).trans_eq h.symm) (norm_nonneg x)

/-- **sequential truncation accumulates in quadrature.**  A sweep truncates one bond after the other; on a state kept
    in canonical form every truncation is an orthogonal projection `Q (k+1)` of the current state and the projections are
    nested (`range Q (k+1) ⊆ range Q k`, `Q 0 = id`).  Then the squared distance between the original and the result of
    `n` truncations is EXACTLY the sum of the squared local errors (the locally discarded weights) – for any number of
    bonds, on chains and trees alike. -/
theorem nested_truncation (Q : ℕ → (E →ₗ[𝕜] E)) (h0 : ∀ x, Q 0 x = x) (hQ : ∀ k, IsOrthProj (𝕜 := 𝕜) (Q k))
    (hnest : ∀ k x, Q k (Q (k + 1) x) = Q (k + 1) x) (x : E) (n : ℕ) :
    ‖x - Q n x‖ ^ 2 = ∑ k ∈ range n, ‖Q k x - Q (k + 1) x‖ ^ 2 := by
  induction n with
  | zero => simp [h0]
  | succ n ih =>
    rw [Finset.sum_range_succ, ← ih]
    exact (hQ n).pythagoras x (Q (n + 1) x) (hnest n x)

/-- consequences used by the property: the result is no longer than the original, the total error dominates every
    local one, and it is at most the sum of the local errors -/
theorem nested_truncation_ge_local (Q : ℕ → (E →ₗ[𝕜] E)) (h0 : ∀ x, Q 0 x = x) (hQ : ∀ k, IsOrthProj (𝕜 := 𝕜) (Q k))
    (hnest : ∀ k x, Q k (Q (k + 1) x) = Q (k + 1) x) (x : E) (n k : ℕ) (hk : k < n) :
    ‖Q k x - Q (k + 1) x‖ ^ 2 ≤ ‖x - Q n x‖ ^ 2 := by
  rw [nested_truncation Q h0 hQ hnest x n]
  exact Finset.single_le_sum (f := fun k => ‖Q k x - Q (k + 1) x‖ ^ 2) (fun i _ => sq_nonneg _) (Finset.mem_range.mpr hk)

theorem isOrthProj_id : IsOrthProj (𝕜 := 𝕜) (LinearMap.id : E →ₗ[𝕜] E) := ⟨fun _ _ => rfl, fun _ => rfl⟩
theorem isOrthProj_zero : IsOrthProj (𝕜 := 𝕜) (0 : E →ₗ[𝕜] E) :=
  ⟨fun x y => (inner_zero_left y).trans (inner_zero_right x).symm, fun _ => rfl⟩

/-- non-vacuity: the chain `id ⊇ 0 ⊇ 0 ⊇ …` satisfies the hypotheses of `nested_truncation` -/
example (x : E) (n : ℕ) :
    ‖x - (if n = 0 then (LinearMap.id : E →ₗ[𝕜] E) else 0) x‖ ^ 2
      = ∑ k ∈ Finset.range n, ‖(if k = 0 then (LinearMap.id : E →ₗ[𝕜] E) else 0) x - (if k + 1 = 0 then (LinearMap.id : E →ₗ[𝕜] E) else 0) x‖ ^ 2 :=
  -- `Q (k + 1)` reduces to `0`, so nestedness is `Q k 0 = 0`
  nested_truncation (fun k => if k = 0 then (LinearMap.id : E →ₗ[𝕜] E) else 0) (fun _ => rfl)
    (fun k => by
      split
      exacts [isOrthProj_id, isOrthProj_zero])
    (fun _ _ => LinearMap.map_zero _) x n

end RenoVerif.Trunc
