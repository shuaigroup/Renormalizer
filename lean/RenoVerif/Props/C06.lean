/-
  C06 — conserved quantum numbers are never violated.
  (1) Matrix level (any scalars, any label group): block-sparsity invariant ⇒ zero amplitude outside
      the sector; preserved by add / scale / conj / apply (sector shifted by the operator's charge)
      / label-respecting re-factorisation / masking.
  (2) Executable checker `checkInv` that is run on the support pattern and stored labels of the
      implementation's tensors: accepted ⇒ every chained path of non-zero entries carries total
      physical quantum number `qntot`.
-/
import RenoVerif.Lemmas.ChainQN
import RenoVerif.Model.QN

namespace RenoVerif.Chain
variable {R : Type} [CommRing R] {Q : Type} [AddCommGroup Q]

theorem c06_sector {ds : List ℕ} (c : Chain R ds 1 1) (sqs : SigmaQ Q ds) (qntot : Q)
    (h : ChainInv c (fun _ => 0) sqs (fun _ => qntot)) (cfg : Cfg ds) (hq : totalQ sqs cfg ≠ qntot) :
    amp c cfg 0 0 = 0 := zero_outside_sector c sqs qntot h cfg hq

theorem c06_add {ds : List ℕ} {l r l' r' : ℕ} {a : Chain R ds l r} {b : Chain R ds l' r'}
    {qL : Fin l → Q} {qR : Fin r → Q} {qL' : Fin l' → Q} {qR' : Fin r' → Q} {sqs : SigmaQ Q ds}
    (ha : ChainInv a qL sqs qR) (hb : ChainInv b qL' sqs qR') :
    ChainInv (addC a b) (catQ qL qL') sqs (catQ qR qR') := chainInv_addC ha hb

theorem c06_scale {ds : List ℕ} {l r : ℕ} {a : Chain R ds l r} {qL : Fin l → Q} {qR : Fin r → Q}
    {sqs : SigmaQ Q ds} (k : ℕ) (x : R) (h : ChainInv a qL sqs qR) : ChainInv (scaleAt k x a) qL sqs qR :=
  chainInv_scaleAt k x h

theorem c06_conj (f : R →+* R) {ds : List ℕ} {l r : ℕ} {a : Chain R ds l r} {qL : Fin l → Q}
    {qR : Fin r → Q} {sqs : SigmaQ Q ds} (h : ChainInv a qL sqs qR) : ChainInv (mapC f a) qL sqs qR :=
  chainInv_mapC f h

/-- applying an operator of charge `q` (labels `0 → q`) to a state of sector `qntot` gives a state
    whose amplitudes vanish outside sector `q + qntot` -/
theorem c06_apply_shifts_sector {ds : List ℕ} (w : OpChain R ds 1 1) (x : Chain R ds 1 1) (sqs : SigmaQ Q ds)
    (q qntot : Q) (hw : OpChainInv w (fun _ => 0) sqs (fun _ => q)) (hx : ChainInv x (fun _ => 0) sqs (fun _ => qntot))
    (cfg : Cfg ds) (i : Fin (1 * 1)) (j : Fin (1 * 1)) (hne : amp (applyC w x) cfg i j ≠ 0) :
    totalQ sqs cfg = q + qntot := by
  have h := sector_of_inv (chainInv_applyC hw hx) cfg i j hne
  simp only [krQ, add_zero, zero_add] at h
  exact h

end RenoVerif.Chain

namespace RenoVerif.QN

theorem Q2.add_zero (x : Q2) : x + 0 = x :=
  congrArg₂ Q2.mk (Int.add_zero x.a) (Int.add_zero x.b)

theorem Q2.zero_add (x : Q2) : 0 + x = x :=
  congrArg₂ Q2.mk (Int.zero_add x.a) (Int.zero_add x.b)

theorem Q2.add_assoc (x y z : Q2) : x + y + z = x + (y + z) :=
  congrArg₂ Q2.mk (Int.add_assoc x.a y.a z.a) (Int.add_assoc x.b y.b z.b)

/-- with `getD` because `pathSigma` reads the physical label so; the default is never reached, an entry whose
    physical index is out of range being rejected -/
theorem entryOK_step (qL sq qR : List Q2) (e : Nat × Nat × Nat) (h : entryOK qL sq qR e = true) (x : Q2)
    (hx : qL[e.1]? = some x) : qR[e.2.2]? = some (x + sq.getD e.2.1 0) := by
  revert h
  fun_cases entryOK qL sq qR e with
  | case1 x' s y hy hs hx' =>
    intro h
    cases hx'.symm.trans hx
    rw [hy, List.getD_eq_getElem?_getD, hs]
    exact congrArg some (beq_iff_eq.mp h).symm
  | case2 => nofun

/-- end of a path: the right index of its last entry -/
def pathEnd : List (Nat × Nat × Nat) → Nat → Nat
  | [], l => l
  | e :: es, _ => pathEnd es e.2.2

/-- **soundness of the executable checker**: along every chained path of non-zero entries the
    left label plus the physical quantum numbers of the path equals the right label -/
theorem path_sum : ∀ (L : Labels) (sqs : List (List Q2)) (sups : List Support) (es : List (Nat × Nat × Nat))
    (l : Nat) (x : Q2), checkSites L sqs sups = true → isPath sups es l = true →
    L.head?.bind (·[l]?) = some x →
    L.getLast?.bind (·[pathEnd es l]?) = some (x + pathSigma sqs es) := by
  intro L sqs sups
  fun_induction checkSites L sqs sups with
  | case1 qL qR rest sq sqs s sups ih =>
    intro es l x h hp hx
    cases es with
    | nil => cases hp
    | cons e es =>
      obtain ⟨hs, hrec⟩ := Bool.and_eq_true_iff.mp h
      simp only [isPath, Bool.and_eq_true, beq_iff_eq, List.contains_iff_mem] at hp
      obtain ⟨⟨rfl, hmem⟩, hrest⟩ := hp
      have hy := entryOK_step qL sq qR e (List.all_eq_true.mp hs e hmem) x hx
      show (qR :: rest).getLast?.bind (·[pathEnd es e.2.2]?) = some (x + (sq.getD e.2.1 0 + pathSigma sqs es))
      rw [← Q2.add_assoc]
      exact ih es e.2.2 (x + sq.getD e.2.1 0) hrec hrest hy
  | case2 q =>
    intro es l x _ hp hx
    cases es with
    | nil => exact hx.trans (congrArg some (Q2.add_zero x).symm)
    | cons e es => cases hp
  | case3 => nofun

/-- accepted by `checkInv` ⇒ every closed path carries exactly `qntot` -/
theorem checkInv_sector (qn : Labels) (qnidx : Nat) (qntot : Q2) (sqs : List (List Q2)) (sups : List Support)
    (h : checkInv qn qnidx qntot sqs sups = true) (es : List (Nat × Nat × Nat))
    (hp : isPath sups es 0 = true) (hend : pathEnd es 0 = 0) : pathSigma sqs es = qntot := by
  unfold checkInv at h
  simp only [Bool.and_eq_true, beq_iff_eq] at h
  obtain ⟨⟨h0, hn⟩, hs⟩ := h
  have hsum := path_sum _ sqs sups es 0 0 hs hp (by rw [h0]; rfl)
  rw [hn, hend, Q2.zero_add] at hsum
  exact (Option.some.inj hsum).symm

/-- the pinned `add` (defect D1) concatenated the UN-moved labels of its first operand: a
    concrete two-site witness (single-particle sector; operand centres 0 and 1) on which the stale
    labels are rejected by the checker while the moved ones are accepted. -/
theorem add_stale_breaks_inv :
    let sq : List Q2 := [⟨0,0⟩, ⟨1,0⟩]
    let sups : List Support := [[(0,0,0),(0,1,1),(0,0,2),(0,1,3)], [(0,1,0),(1,0,0),(2,1,0),(3,0,0)]]
    let qa : Labels := [[⟨0,0⟩], [⟨1,0⟩, ⟨0,0⟩], [⟨0,0⟩]]      -- centre 0: bond 1 holds RIGHT labels
    let qb : Labels := [[⟨0,0⟩], [⟨0,0⟩, ⟨1,0⟩], [⟨0,0⟩]]      -- centre 1: bond 1 holds LEFT labels
    checkInv (addLabels qa 0 qb 1 ⟨1,0⟩) 1 ⟨1,0⟩ [sq, sq] sups = true ∧
    checkInv (addLabelsStale qa qb) 1 ⟨1,0⟩ [sq, sq] sups = false := by decide +kernel

end RenoVerif.QN
