/-
  C13 — operations return new objects and never disturb their inputs (effect model).
  For every finite program of derive / mutate / observe steps: well-formedness (no two live objects
  share a mutable cell) is an invariant, a derivation never changes what any existing object
  represents, an in-place modification of one object never changes any other object, and a
  measurement changes nothing.  The tie to the code is the observed write and sharing sets of the
  real methods (search_c13 / c13.py), which must stay inside these three classes.
-/
import RenoVerif.Model.Effects
import RenoVerif.Lemmas.List
import Mathlib.Data.List.Nodup
import Mathlib.Data.List.GetD

namespace RenoVerif.Effects

theorem getD_foldl_set_of_notMem (w : List Nat → Nat → Nat) : ∀ (cs : List Nat) (h : List Nat) (c : Nat), c ∉ cs →
    (cs.foldl (fun h c' => h.set c' (w h c')) h).getD c 0 = h.getD c 0
  | [], _, _, _ => rfl
  | c' :: cs, h, c, hn => by
    rw [List.foldl_cons, getD_foldl_set_of_notMem w cs _ c (List.not_mem_of_not_mem_cons hn),
      List.getD_eq_getElem?_getD, List.getElem?_set_ne (List.ne_of_not_mem_cons hn).symm, List.getD_eq_getElem?_getD]

theorem length_foldl_set (w : List Nat → Nat → Nat) : ∀ (cs : List Nat) (h : List Nat),
    (cs.foldl (fun h c' => h.set c' (w h c')) h).length = h.length
  | [], _ => rfl
  | c :: cs, h => by rw [List.foldl_cons, length_foldl_set w cs, List.length_set]

theorem WF.disjoint {s : St} (hwf : WF s) {i j : Nat} (hij : i ≠ j) (hi : i < s.objs.length) (hj : j < s.objs.length) :
    (s.objs.getD i []).Disjoint (s.objs.getD j []) := by
  rw [List.getD_eq_getElem _ _ hi, List.getD_eq_getElem _ _ hj]
  have hpw := List.pairwise_iff_getElem.mp (List.nodup_flatten.mp hwf.2).2
  rcases Nat.lt_or_gt_of_ne hij with h | h
  · exact hpw i j hi hj h
  · exact List.disjoint_symm (hpw j i hj hi h)

/-- the cells of the object that a derivation allocates lie above the old heap and inside the new one -/
theorem mem_fresh {c n m : Nat} (h : c ∈ (List.range n).map (· + m)) : m ≤ c ∧ c < m + n := by
  obtain ⟨k, hk, rfl⟩ := List.mem_map.mp h
  have := List.mem_range.mp hk
  omega

/-- **measurement changes nothing** -/
theorem observe_frame (s : St) (i j : Nat) : read (step s (.observe i)) j = read s j := rfl

/-- **in-place modification of `i` never changes another object `j`** (given no shared cells) -/
theorem mutate_frame (s : St) (hwf : WF s) (i j : Nat) (hij : i ≠ j) (hi : i < s.objs.length) (hj : j < s.objs.length)
    (g : Nat → Nat) : read (step s (.mutate i g)) j = read s j :=
  List.map_congr_left fun c hc =>
    getD_foldl_set_of_notMem _ _ _ c fun hci => hwf.disjoint hij hi hj hci hc

/-- **a derivation never changes what an existing object represents** -/
theorem derive_frame (s : St) (hwf : WF s) (i j : Nat) (hj : j < s.objs.length) (f : Nat → Nat) :
    read (step s (.derive i f)) j = read s j := by
  unfold read step
  simp only
  rw [List.getD_append _ _ _ _ hj]
  exact List.map_congr_left fun c hc =>
    have hlt : c < s.heap.length := getD_elim hwf.1 (fun _ h => absurd h List.not_mem_nil) j c hc
    List.getD_append _ _ _ _ hlt

/-- the result of a derivation owns only fresh cells: it shares nothing with any existing object -/
theorem derive_fresh (s : St) (hwf : WF s) (i : Nat) (f : Nat → Nat) :
    ∀ c ∈ (step s (.derive i f)).objs.getLast?.getD [], ∀ o ∈ s.objs, c ∉ o := by
  intro c hc o ho hco
  simp only [step, List.getLast?_concat, Option.getD_some] at hc
  have := hwf.1 o ho c hco
  have := (mem_fresh hc).1
  omega

/-- **well-formedness is an invariant of every step**, hence of every program -/
theorem wf_step (s : St) (hwf : WF s) (op : Op) : WF (step s op) := by
  cases op with
  | observe i => exact hwf
  | mutate i g =>
    refine ⟨fun o ho c hc => ?_, hwf.2⟩
    simp only [step, length_foldl_set]
    exact hwf.1 o ho c hc
  | derive i f =>
    constructor
    · intro o ho c hc
      simp only [step, List.mem_append, List.mem_singleton] at ho
      simp only [step, List.length_append]
      rcases ho with ho | rfl
      · exact Nat.lt_add_right _ (hwf.1 o ho c hc)
      · exact (mem_fresh hc).2
    · simp only [step, List.flatten_concat]
      refine List.nodup_append.mpr
        ⟨hwf.2, List.nodup_range.map fun a b h => Nat.add_right_cancel h, fun a ha b hb => ?_⟩
      obtain ⟨o, ho, hao⟩ := List.mem_flatten.mp ha
      have := hwf.1 o ho a hao
      have := (mem_fresh hb).1
      omega

theorem wf_run (ops : List Op) : ∀ (s : St), WF s → WF (run s ops) := by
  induction ops with
  | nil => intro s h; exact h
  | cons op ops ih => intro s h; exact ih _ (wf_step s h op)

/-- **no interference over histories**: a program whose in-place steps all address objects other
    than `j` (and arbitrary derivations and measurements, of `j` too) leaves `j` unchanged -/
theorem no_interference (j : Nat) : ∀ (ops : List Op) (s : St), WF s → j < s.objs.length →
    (∀ op ∈ ops, ∀ i g, op = Op.mutate i g → i ≠ j ∧ i < s.objs.length) →
    read (run s ops) j = read s j := by
  intro ops
  induction ops with
  | nil => intro s _ _ _; rfl
  | cons op ops ih =>
    intro s hwf hj hops
    have hlen : s.objs.length ≤ (step s op).objs.length := by
      cases op <;> simp only [step, List.length_append, Nat.le_add_right, Nat.le_refl]
    have h1 : read (step s op) j = read s j := by
      cases op with
      | observe i => rfl
      | derive i f => exact derive_frame s hwf i j hj f
      | mutate i g =>
        obtain ⟨hne, hi⟩ := hops _ List.mem_cons_self i g rfl
        exact mutate_frame s hwf i j hne hi hj g
    exact (ih (step s op) (wf_step s hwf op) (Nat.lt_of_lt_of_le hj hlen) fun op' hop' i g he =>
      (hops op' (List.mem_cons_of_mem _ hop') i g he).imp_right (Nat.lt_of_lt_of_le · hlen)).trans h1

-- non-vacuity: a concrete two-object heap is well formed; mutating one leaves the other alone
example : WF ⟨[5, 6, 7], [[0, 1], [2]]⟩ := by
  constructor
  · decide
  · decide
example : read (run ⟨[5, 6, 7], [[0, 1], [2]]⟩ [.derive 0 (· + 1), .mutate 0 (· * 2), .mutate 2 (· + 9)]) 1 = [7] := by
  decide

end RenoVerif.Effects
