/-
  C17 — the finite tables of the Jordan–Wigner sign logic, checked by kernel evaluation on the
  list-matrix model (Model/JW.lean) alone; no Mathlib, so this module loads and checks beside the
  theorems of Props/C17.lean instead of in front of them.
  * `jw_swap_table`: the Jordan–Wigner site-swap rule of `table_row_swapped_jw` is the fermionic
    swap conjugation, for the whole alphabet of site operators the code admits (10 × 10 cases).
-/
import RenoVerif.Model.JW

namespace RenoVerif.JW

/-- **Jordan–Wigner swap table**: exhaustive over the admitted site-operator alphabet -/
theorem jw_swap_table : (siteWords.all fun a => siteWords.all fun b => swapOK a b) = true := by
  decide +kernel

/-- the list-matrix evaluator used by the driver agrees with the theorem on all words ≤ 5 (test) -/
theorem simplifyOK_upto5 : ((wordsUpTo 5).all simplifyOK) = true := by decide +kernel

example : swapJW [.Z, .P] [.M] = (-1, [.P], [.Z, .M]) := by decide +kernel

end RenoVerif.JW
