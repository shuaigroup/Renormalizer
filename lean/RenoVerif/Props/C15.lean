/-
  C15 — property theorems: the symbolic operator algebra is a homomorphism into ANY algebra
  `A` over the scalars, for every interpretation `I` of (simple symbol, DoF) and every expression.
-/
import RenoVerif.Model.OpAlg
import Mathlib.Algebra.Algebra.Basic
import Mathlib.Algebra.BigOperators.Group.List.Basic
import Mathlib.Algebra.Field.Basic

namespace RenoVerif.OpAlg

variable {R A : Type} [CommRing R] [Ring A] [Algebra R A] (I : String → Nat → A)

/-- ordered product of the interpreted simple symbols -/
def base (l : List Atom) : A := (l.map fun t => I t.sym t.dof).prod
def den (a : Op R) : A := algebraMap R A a.factor * base I a.atoms
def denS (s : OpSum R) : A := (s.map (den I)).sum

theorem base_cons (t : Atom) (l : List Atom) : base I (t :: l) = I t.sym t.dof * base I l := rfl

theorem base_append (l m : List Atom) : base I (l ++ m) = base I l * base I m := by
  rw [base, List.map_append, List.prod_append]; rfl

/-- The factor acts on the ordered product as a scalar; each law of `den` is one law of that action. -/
theorem den_eq_smul (a : Op R) : den I a = a.factor • base I a.atoms := (Algebra.smul_def _ _).symm

/-- product of operators denotes the product, in the written order -/
theorem den_mul (a b : Op R) : den I (a.mul b) = den I a * den I b := by
  rw [den_eq_smul, den_eq_smul, den_eq_smul, smul_mul_smul_comm, ← base_append]; rfl

theorem den_smul (a : Op R) (c : R) : den I (a.smul c) = c • den I a := by
  rw [den_eq_smul, den_eq_smul, smul_smul, mul_comm]; rfl

theorem den_neg (a : Op R) : den I a.neg = - den I a := by
  rw [den_eq_smul, den_eq_smul, ← neg_smul]; rfl

theorem denS_nil : denS I ([] : OpSum R) = 0 := rfl
theorem denS_cons (a : Op R) (s : OpSum R) : denS I (a :: s) = den I a + denS I s := rfl

theorem denS_append (s t : OpSum R) : denS I (s ++ t) = denS I s + denS I t := by
  rw [denS, List.map_append, List.sum_append]; rfl

/-- Negation, scaling and multiplication by one operator all go through this: a termwise `f` that
    acts on the denotation of a term as an additive `g`. -/
theorem denS_map (f : Op R → Op R) (g : A →+ A) (h : ∀ a, den I (f a) = g (den I a)) (s : OpSum R) :
    denS I (s.map f) = g (denS I s) := by
  rw [denS, denS, map_list_sum, List.map_map, List.map_map]
  exact congrArg List.sum (List.map_congr_left fun a _ => h a)

theorem denS_add (s t : OpSum R) : denS I (s.add t) = denS I s + denS I t := denS_append I s t

theorem denS_neg (s : OpSum R) : denS I s.neg = - denS I s :=
  denS_map I Op.neg negAddMonoidHom (den_neg I) s

theorem denS_sub (s t : OpSum R) : denS I (s.sub t) = denS I s - denS I t := by
  rw [sub_eq_add_neg, ← denS_neg]; exact denS_append I s t.neg

theorem denS_smul (s : OpSum R) (c : R) : denS I (s.smul c) = c • denS I s :=
  denS_map I (·.smul c) (DistribSMul.toAddMonoidHom A c) (fun a => den_smul I a c) s

theorem denS_div {K : Type} [Field K] [Algebra K A] (I : String → Nat → A) (s : OpSum K) (c : K) :
    denS I (s.div c) = c⁻¹ • denS I s := denS_smul I s c⁻¹

/-- distributivity: a product of sums denotes the product of the denotations -/
theorem denS_mul (s t : OpSum R) : denS I (s.mul t) = denS I s * denS I t := by
  induction s with
  | nil => exact (zero_mul _).symm
  | cons a s ih =>
    calc denS I (OpSum.mul (a :: s) t)
        = denS I (t.map a.mul) + denS I (OpSum.mul s t) := denS_append I _ _
      _ = den I a * denS I t + denS I s * denS I t := by
        rw [ih, denS_map I a.mul (AddMonoidHom.mulLeft (den I a)) (den_mul I a) t]; rfl
      _ = denS I (a :: s) * denS I t := (add_mul _ _ _).symm

theorem I_of_isI (hI : ∀ d, I "I" d = 1) {t : Atom} (h : t.isI = true) : I t.sym t.dof = 1 := by
  rw [eq_of_beq h]; exact hI t.dof

/-- removing identity factors does not change the denoted operator (given `I "I" d = 1`) -/
theorem base_filter_I (hI : ∀ d, I "I" d = 1) (l : List Atom) :
    base I (l.filter fun t => !t.isI) = base I l := by
  induction l with
  | nil => rfl
  | cons t l ih =>
    cases h : t.isI with
    | true => rw [List.filter_cons_of_neg (by simp [h]), ih, base_cons, I_of_isI I hI h, one_mul]
    | false => rw [List.filter_cons_of_pos (by simp [h]), base_cons, base_cons, ih]

theorem base_all_I (hI : ∀ d, I "I" d = 1) (l : List Atom) (h : l.all Atom.isI = true) :
    base I l = 1 :=
  List.prod_eq_one (List.forall_mem_map.mpr fun t ht => I_of_isI I hI (List.all_eq_true.mp h t ht))

theorem den_squeeze (hI : ∀ d, I "I" d = 1) (a a' : Op R) (h : a.squeeze = .ok a') :
    den I a' = den I a := by
  revert h
  fun_cases Op.squeeze a with
  | case1 => rintro ⟨⟩; rfl
  | case2 hid t l hat =>
    -- every atom of `a` is an identity, and so is the one atom of `a'`
    rintro ⟨⟩
    rw [den, den, base_all_I I hI a.atoms (Bool.and_eq_true_iff.mp hid).2, base_all_I I hI [_] rfl]
  | case3 => nofun
  | case4 => rintro ⟨⟩; rw [den, den, base_filter_I I hI]

theorem denS_squeezeAll (hI : ∀ d, I "I" d = 1) (s s' : OpSum R) (h : squeezeAll s = .ok s') :
    denS I s' = denS I s := by
  fun_induction squeezeAll s generalizing s' with
  | case1 => cases h; rfl
  | case2 a s a' s'' hs ha ih => cases h; rw [denS_cons, denS_cons, den_squeeze I hI a a' ha, ih s'' hs]
  | case3 => cases h
  | case4 => cases h

/-- `base` reads the symbol and the DoF of an atom only: quantum numbers are not interpreted -/
theorem base_congr {l m : List Atom}
    (h : l.map (fun t => (t.sym, t.dof)) = m.map fun t => (t.sym, t.dof)) : base I l = base I m := by
  have key (l : List Atom) :
      base I l = ((l.map fun t => (t.sym, t.dof)).map fun p => I p.1 p.2).prod := by
    rw [List.map_map]; rfl
  rw [key, key, h]

theorem denS_same (op : Op R) (l : OpSum R) (h : ∀ o ∈ l, sameTerm op o = true) :
    denS I l = sumFactors l • base I op.atoms := by
  induction l with
  | nil => exact (zero_smul R _).symm
  | cons o l ih =>
    rw [denS_cons, ih fun o' ho' => h o' (List.mem_cons_of_mem o ho'), den_eq_smul,
      ← base_congr I (eq_of_beq (h o List.mem_cons_self)), ← add_smul]; rfl

theorem denS_filter_split (p : Op R → Bool) (l : OpSum R) :
    denS I l = denS I (l.filter p) + denS I (l.filter fun o => !p o) := by
  simpa only [denS, Bool.decide_eq_true, Bool.not_eq_true, Bool.decide_eq_false] using
    (List.sum_map_filter_add_sum_map_filter_not (fun o => p o = true) (den I) l).symm

/-- merging equal terms never changes the denoted operator -/
theorem denS_merge (n : Nat) (s : OpSum R) (hn : s.length ≤ n) : denS I (merge n s) = denS I s := by
  fun_induction merge n s with
  | case1 s => rw [List.eq_nil_of_length_eq_zero (Nat.le_zero.mp hn)]
  | case2 => rfl
  | case3 n op rest same other ih =>
    have hlen : other.length ≤ n :=
      (List.length_filter_le _ rest).trans (Nat.le_of_succ_le_succ hn)
    rw [denS_cons, denS_cons, ih hlen, denS_filter_split I (sameTerm op) rest,
      denS_same I op same fun o ho => (List.mem_filter.mp ho).2, den_eq_smul, den_eq_smul,
      add_smul, add_assoc]

theorem squeezeAll_ok_of_simplify {small : R → Bool} {s k : OpSum R} (h : simplify small s = .ok k) :
    ∃ s', squeezeAll s = .ok s' := by
  unfold simplify at h
  cases hs : squeezeAll s with
  | error e => rw [hs] at h; cases h
  | ok s' => exact ⟨s', rfl⟩

theorem simplify_of_squeezeAll (small : R → Bool) {s s' : OpSum R} (h : squeezeAll s = .ok s') :
    simplify small s = .ok ((merge s'.length s').filter fun o => !small o.factor) := by
  rw [simplify, h]

theorem dropped_of_squeezeAll (small : R → Bool) {s s' : OpSum R} (h : squeezeAll s = .ok s') :
    dropped small s = .ok ((merge s'.length s').filter fun o => small o.factor) := by
  rw [dropped, h]

/-- **simplify** splits the sum into what it keeps and what it drops, exactly -/
theorem denS_simplify_split (hI : ∀ d, I "I" d = 1) (small : R → Bool) (s k d : OpSum R)
    (hk : simplify small s = .ok k) (hd : dropped small s = .ok d) :
    denS I s = denS I k + denS I d ∧ ∀ o ∈ d, small o.factor = true := by
  obtain ⟨s', hs⟩ := squeezeAll_ok_of_simplify hk
  rw [simplify_of_squeezeAll small hs] at hk
  rw [dropped_of_squeezeAll small hs] at hd
  cases hk; cases hd
  refine ⟨?_, fun o ho => (List.mem_filter.mp ho).2⟩
  rw [← denS_squeezeAll I hI s s' hs, ← denS_merge I s'.length s' (Nat.le_refl _),
    denS_filter_split I (fun o => small o.factor), add_comm]

theorem denS_eq_zero (l : OpSum R) (h : ∀ o ∈ l, o.factor = 0) : denS I l = 0 :=
  List.sum_eq_zero (List.forall_mem_map.mpr fun o ho => by rw [den_eq_smul, h o ho, zero_smul])

/-- with tolerance 0 (`small f ↔ f = 0`) simplification is exact -/
theorem denS_simplify0 (hI : ∀ d, I "I" d = 1) (s k : OpSum R) [DecidableEq R]
    (hk : simplify (fun f => f == 0) s = .ok k) : denS I k = denS I s := by
  obtain ⟨s', hs⟩ := squeezeAll_ok_of_simplify hk
  obtain ⟨h, hd⟩ := denS_simplify_split I hI _ s k _ hk (dropped_of_squeezeAll _ hs)
  rw [h, denS_eq_zero I _ fun o ho => eq_of_beq (hd o ho), add_zero]

theorem atoms_of_mem_merge (n : Nat) (l : OpSum R) {b : Op R} (hb : b ∈ merge n l) :
    ∃ o ∈ l, o.atoms = b.atoms := by
  fun_induction merge n l with
  | case1 => cases hb
  | case2 => cases hb
  | case3 n op rest same other ih =>
    rcases List.mem_cons.mp hb with rfl | hb
    · exact ⟨op, List.mem_cons_self, rfl⟩
    · obtain ⟨o, ho, h⟩ := ih hb
      exact ⟨o, List.mem_cons_of_mem op (List.mem_filter.mp ho).1, h⟩

/-- no two remaining terms of `merge` are the same term -/
theorem merge_no_same (n : Nat) (s : OpSum R) :
    (merge n s).Pairwise (fun a b => sameTerm a b = false) := by
  fun_induction merge n s with
  | case1 => exact .nil
  | case2 => exact .nil
  | case3 n op rest same other ih =>
    refine List.pairwise_cons.mpr ⟨fun b hb => ?_, ih⟩
    -- `b` has the atoms of some `o` that was not the same term as `op`, and `sameTerm` reads atoms only
    obtain ⟨o, ho, hat⟩ := atoms_of_mem_merge n other hb
    have hns : sameTerm op o = false := (Bool.not_eq_true' _).mp (List.mem_filter.mp ho).2
    unfold sameTerm at hns ⊢
    rw [← hat]; exact hns

/-! ### every expression program -/

theorem bind_ok {ε α β : Type} {x : Except ε α} {f : α → Except ε β} {b : β}
    (h : x >>= f = .ok b) : ∃ a, x = .ok a ∧ f a = .ok b := by
  cases x with
  | error e => cases h
  | ok a => exact ⟨a, rfl, h⟩

section Program
variable {K B : Type} [Field K] [DecidableEq K] [Ring B] [Algebra K B] (J : String → Nat → B)

/-- the mathematical meaning of an expression in the algebra `B` -/
def evalMath : Expr K → B
  | .atom o => den J o
  | .add a b => evalMath a + evalMath b
  | .sub a b => evalMath a - evalMath b
  | .neg a => - evalMath a
  | .mul a b => evalMath a * evalMath b
  | .smul a c => c • evalMath a
  | .div a c => c⁻¹ • evalMath a
  | .simp0 a => evalMath a

/-- **Homomorphism theorem for programs.** Whatever expression is built from the public
    arithmetic, if the model evaluates it without error to the term list `s`, then `s` denotes
    the mathematical value of the expression, in every algebra and under every interpretation
    of the simple symbols in which `I` is the unit. -/
theorem den_eval (hI : ∀ d, J "I" d = 1) : ∀ (e : Expr K) (s : OpSum K),
    evalModel e = .ok s → denS J s = evalMath J e := by
  intro e s h
  induction e generalizing s with
  | atom o => cases h; exact add_zero (den J o)
  | add a b iha ihb =>
    obtain ⟨x, hx, h⟩ := bind_ok h
    obtain ⟨y, hy, ⟨⟩⟩ := bind_ok h
    rw [denS_add, iha x hx, ihb y hy]; rfl
  | sub a b iha ihb =>
    obtain ⟨x, hx, h⟩ := bind_ok h
    obtain ⟨y, hy, ⟨⟩⟩ := bind_ok h
    rw [denS_sub, iha x hx, ihb y hy]; rfl
  | neg a iha =>
    obtain ⟨x, hx, ⟨⟩⟩ := bind_ok h
    rw [denS_neg, iha x hx]; rfl
  | mul a b iha ihb =>
    obtain ⟨x, hx, h⟩ := bind_ok h
    obtain ⟨y, hy, ⟨⟩⟩ := bind_ok h
    rw [denS_mul, iha x hx, ihb y hy]; rfl
  | smul a c iha =>
    obtain ⟨x, hx, ⟨⟩⟩ := bind_ok h
    rw [denS_smul, iha x hx]; rfl
  | div a c iha =>
    obtain ⟨x, hx, ⟨⟩⟩ := bind_ok h
    rw [denS_div, iha x hx]; rfl
  | simp0 a iha =>
    obtain ⟨x, hx, h⟩ := bind_ok h
    rw [denS_simplify0 J hI x s h, iha x hx]; rfl

end Program

-- non-vacuity: a concrete program over ℚ evaluates without error and merges terms
private def X0 : Op Rat := ⟨[⟨"X", 0, [0]⟩], 1/2⟩
private def Y1 : Op Rat := ⟨[⟨"Y", 1, [0]⟩], 2⟩
private def I2 : Op Rat := ⟨[⟨"I", 2, [0]⟩], 1⟩
example : evalModel (.simp0 (.add (.mul (.atom X0) (.atom I2)) (.atom X0)))
    = .ok [⟨[⟨"X", 0, [0]⟩], 1⟩] := by decide +kernel
example : evalModel (.simp0 (.sub (.atom X0) (.atom X0))) = (.ok [] : Except Err (OpSum Rat)) := by decide +kernel
example : (⟨[⟨"X", 0, [0]⟩, ⟨"I", 1, [1]⟩], (1:Rat)⟩ : Op Rat).squeeze = .error .assertQn := by decide +kernel

end RenoVerif.OpAlg
