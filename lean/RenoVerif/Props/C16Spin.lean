/-
  C16 — spin matrices obey the Pauli algebra; a symbol written as a product is the matrix product
  in the written order; multi-electron matrices place a single 1 at the documented position and
  multiply like one-particle transition operators.
-/
import RenoVerif.Model.Spin
import Mathlib.Data.Matrix.Basis
import Mathlib.Tactic.Ring

namespace RenoVerif.Spin

@[ext] theorem GI.ext' {x y : GI} (h1 : x.re = y.re) (h2 : x.im = y.im) : x = y := by
  cases x; cases y; congr
@[simp] theorem GI.mul_re (x y : GI) : (x * y).re = x.re * y.re - x.im * y.im := rfl
@[simp] theorem GI.mul_im (x y : GI) : (x * y).im = x.re * y.im + x.im * y.re := rfl
@[simp] theorem GI.add_re (x y : GI) : (x + y).re = x.re + y.re := rfl
@[simp] theorem GI.add_im (x y : GI) : (x + y).im = x.im + y.im := rfl
@[simp] theorem GI.one_re : (1 : GI).re = 1 := rfl
@[simp] theorem GI.one_im : (1 : GI).im = 0 := rfl
@[simp] theorem GI.zero_re : (0 : GI).re = 0 := rfl
@[simp] theorem GI.zero_im : (0 : GI).im = 0 := rfl

@[simp] theorem M2.mul_a (x y : M2) : (x * y).a = x.a * y.a + x.b * y.c := rfl
@[simp] theorem M2.mul_b (x y : M2) : (x * y).b = x.a * y.b + x.b * y.d := rfl
@[simp] theorem M2.mul_c (x y : M2) : (x * y).c = x.c * y.a + x.d * y.c := rfl
@[simp] theorem M2.mul_d (x y : M2) : (x * y).d = x.c * y.b + x.d * y.d := rfl
@[ext] theorem M2.ext' {x y : M2} (h1 : x.a = y.a) (h2 : x.b = y.b) (h3 : x.c = y.c) (h4 : x.d = y.d) : x = y := by
  cases x; cases y; congr

/-! `GI` has `+ - *` and no ring instance, so `ring` does not apply to it.  The ring laws that associativity
    of `M2` needs are stated on `GI`; expanding `M2` associativity down to integer polynomials instead costs
    several times as much to check. -/
theorem GI.mul_assoc' (x y z : GI) : x * y * z = x * (y * z) := by
  ext <;> simp only [GI.mul_re, GI.mul_im] <;> ring
theorem GI.mul_add' (x y z : GI) : x * (y + z) = x * y + x * z := by
  ext <;> simp only [GI.mul_re, GI.mul_im, GI.add_re, GI.add_im] <;> ring
theorem GI.add_mul' (x y z : GI) : (x + y) * z = x * z + y * z := by
  ext <;> simp only [GI.mul_re, GI.mul_im, GI.add_re, GI.add_im] <;> ring
theorem GI.add_add_add_comm' (p q r s : GI) : p + q + (r + s) = p + r + (q + s) := by
  ext <;> exact add_add_add_comm _ _ _ _

@[simp] theorem M2.one_a : (1 : M2).a = 1 := rfl
@[simp] theorem M2.one_b : (1 : M2).b = 0 := rfl
@[simp] theorem M2.one_c : (1 : M2).c = 0 := rfl
@[simp] theorem M2.one_d : (1 : M2).d = 1 := rfl

/-- entrywise, both sides are the same four triple products over `GI`, the middle two in the other order -/
theorem M2.mul_assoc' (x y z : M2) : x * y * z = x * (y * z) := by
  apply M2.ext' <;>
    simp only [M2.mul_a, M2.mul_b, M2.mul_c, M2.mul_d, GI.add_mul', GI.mul_add', GI.mul_assoc'] <;>
    exact GI.add_add_add_comm' _ _ _ _
theorem M2.one_mul' (x : M2) : 1 * x = x := by
  ext <;> simp only [M2.mul_a, M2.mul_b, M2.mul_c, M2.mul_d, M2.one_a, M2.one_b, M2.one_c, M2.one_d,
    GI.mul_re, GI.mul_im, GI.add_re, GI.add_im, GI.one_re, GI.one_im, GI.zero_re, GI.zero_im,
    Int.one_mul, Int.zero_mul, Int.sub_zero, Int.add_zero, Int.zero_add]
theorem M2.mul_one' (x : M2) : x * 1 = x := by
  ext <;> simp only [M2.mul_a, M2.mul_b, M2.mul_c, M2.mul_d, M2.one_a, M2.one_b, M2.one_c, M2.one_d,
    GI.mul_re, GI.mul_im, GI.add_re, GI.add_im, GI.one_re, GI.one_im, GI.zero_re, GI.zero_im,
    Int.mul_one, Int.mul_zero, Int.sub_zero, Int.add_zero, Int.zero_add]

theorem foldl_mul (w : List Sym) (x : M2) : w.foldl (fun acc s => acc * s.mat) x = x * wordMat w := by
  induction w generalizing x with
  | nil => simp only [wordMat, List.foldl_nil, M2.mul_one']
  | cons s w ih =>
    simp only [List.foldl_cons, wordMat]
    rw [ih, ih (1 * s.mat), M2.one_mul', M2.mul_assoc']

/-- **a product symbol denotes the matrix product in the written order**, every pair of words -/
theorem wordMat_append (u v : List Sym) : wordMat (u ++ v) = wordMat u * wordMat v := by
  unfold wordMat
  rw [List.foldl_append, foldl_mul]
  rfl

theorem wordMat_cons (s : Sym) (w : List Sym) : wordMat (s :: w) = s.mat * wordMat w := by
  have := wordMat_append [s] w
  rwa [show wordMat [s] = 1 * s.mat from rfl, M2.one_mul'] at this

/-! ### the Pauli algebra (finite table: `decide` over all cases is a proof) -/
open RenoVerif.Spin.Sym

theorem pauli_square : ∀ s ∈ [X, Y, Z], s.mat * s.mat = 1 := by decide +kernel
theorem pauli_cyclic : X.mat * Y.mat = smul gi Z.mat ∧ Y.mat * Z.mat = smul gi X.mat ∧ Z.mat * X.mat = smul gi Y.mat := by decide +kernel
theorem pauli_anticommute : X.mat * Y.mat + Y.mat * X.mat = 0 ∧ Y.mat * Z.mat + Z.mat * Y.mat = 0 ∧
    Z.mat * X.mat + X.mat * Z.mat = 0 := by decide +kernel
theorem iY_def : iY.mat = smul gi Y.mat := by decide +kernel
theorem ladder_def : P.mat + P.mat = X.mat + smul gi Y.mat ∧ M.mat + M.mat = X.mat - smul gi Y.mat := by decide +kernel
theorem ladder_commutator : P.mat * M.mat - M.mat * P.mat = Z.mat ∧ P.mat * M.mat + M.mat * P.mat = 1 ∧
    P.mat * P.mat = 0 ∧ M.mat * M.mat = 0 := by decide +kernel
theorem identity_neutral : ∀ s ∈ [I, X, Y, iY, Z, P, M], I.mat * s.mat = s.mat ∧ s.mat * I.mat = s.mat := by decide +kernel
theorem ladder_z : Z.mat * P.mat = P.mat ∧ P.mat * Z.mat = smul ⟨-1, 0⟩ P.mat ∧
    Z.mat * M.mat = smul ⟨-1, 0⟩ M.mat ∧ M.mat * Z.mat = M.mat := by decide +kernel

/-- the accepted two-symbol products are matrix units with the single 1 where the docs say -/
theorem multiE_adagA (n : ℕ) (i j r c : Fin n) :
    multiE .adagA i j r c = some ((Matrix.single i j (1 : ℤ)) r c) := by
  simp only [multiE, Matrix.single_apply, Fin.ext_iff, eq_comm]

theorem multiE_aAdag (n : ℕ) (i j r c : Fin n) :
    multiE .aAdag i j r c = some ((Matrix.single j i (1 : ℤ)) r c) :=
  multiE_adagA n j i r c

/-- transition operators multiply as `(a†_i a_j)(a†_k a_l) = δ_jk a†_i a_l`, any number of states -/
theorem transition_mul (n : ℕ) (i j k l : Fin n) :
    Matrix.single i j (1 : ℤ) * Matrix.single k l 1 = if j = k then Matrix.single i l 1 else 0 := by
  by_cases h : j = k
  · rw [if_pos h, h, Matrix.single_mul_single_same, mul_one]
  · rw [if_neg h, Matrix.single_mul_single_of_ne (h := h)]

/-- with a vacuum state: `a†_i = |i+1⟩⟨0|`, `a_i = ⟨i+1| … |0⟩`, and `a†_i a_j` is their product -/
theorem vac_adagA_is_product (n : ℕ) (i j : Fin n) :
    (Matrix.single i.succ (0 : Fin (n + 1)) (1 : ℤ)) * Matrix.single 0 j.succ 1 = Matrix.single i.succ j.succ 1 := by
  rw [Matrix.single_mul_single_same, mul_one]

/-- the table entry the class stores for "a a^†" (`|j+1⟩⟨i+1|`) is NOT the product `a_i a†_j = δ_ij |0⟩⟨0|`
    (open finding of C16: the symbol denotes the normal-ordered transition operator instead) -/
theorem vac_aAdag_table_ne_product :
    (Matrix.single (0 : Fin 2) (1 : Fin 2) (1 : ℤ)) * Matrix.single (1 : Fin 2) (0 : Fin 2) (1 : ℤ)
      ≠ Matrix.single (1 : Fin 2) (1 : Fin 2) (1 : ℤ) := by
  rw [Matrix.single_mul_single_same]
  intro h
  exact absurd (congrFun (congrFun h 0) 0) (by decide)

-- non-vacuity / sanity
example : wordMat [X, Y, Z] = smul gi 1 := by decide +kernel
example : opMat ["sigma_+", "sigma_-"] = some ⟨1, 0, 0, 0⟩ := by decide +kernel
example : opMat ["sigma_w"] = none := by decide +kernel

end RenoVerif.Spin
