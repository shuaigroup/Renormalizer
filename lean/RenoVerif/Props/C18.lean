/-
  C18 — the symmetry-blocked factorisation `svd_qn` (renormalizer/mps/svd_qn.py): assembly of the
  per-sector factors.  The LAPACK kernels enter as parameters: for every sector `s` that pairs up
  (`ql i = s`, `qr j = qntot − s` for some `i`, `j`) a factorisation `U_s · diag(σ_s) · V_sᵀ` of the
  gathered block is GIVEN, scattered back to the full index ranges (`blockrecover`: rows outside
  the sector are zero).  Theorems, for every label pattern (empty sectors, one-sided sectors,
  several components — `Q` is any additive group):
    * the assembled factors reproduce exactly the symmetry-allowed part of the input and zero
      elsewhere;
    * columns belonging to different sectors are orthogonal; within a sector orthonormality is the
      kernel's contract; hence the assembled `U` (and `V`) have orthonormal columns;
    * every new column carries the label of its sector.
  The Krylov exponential is a numerical contract (partial), see DESIGN.
-/
import Mathlib.Algebra.BigOperators.Group.Finset.Basic
import Mathlib.Algebra.Star.Basic
import Mathlib.Data.Fintype.Basic

namespace RenoVerif.SvdQn

variable {R : Type} [CommRing R] {Q : Type} [AddCommGroup Q] [DecidableEq Q]
variable {I J : Type} [Fintype I] [Fintype J]
variable (ql : I → Q) (qr : J → Q) (qntot : Q)
variable (S : Finset Q) (K : Q → Type) [∀ s, Fintype (K s)]
variable (U : (s : Q) → I → K s → R) (V : (s : Q) → J → K s → R) (sig : (s : Q) → K s → R)

/-- the scattered block factors vanish outside their sector (`blockrecover`) -/
def SupportU : Prop := ∀ s i k, U s i k ≠ 0 → ql i = s
def SupportV : Prop := ∀ s j k, V s j k ≠ 0 → qr j = qntot - s

/-- the assembled product `U · diag(σ) · Vᵀ` (columns = all (sector, k) pairs) -/
def assembled (i : I) (j : J) : R := ∑ s ∈ S, ∑ k : K s, U s i k * sig s k * V s j k

/-- **reconstruction of the symmetry-allowed part** -/
theorem svdqn_reconstruct (M : I → J → R) (hU : SupportU ql K U) (hV : SupportV qr qntot K V)
    (hS : ∀ i j, ql i + qr j = qntot → ql i ∈ S)
    (hblock : ∀ s ∈ S, ∀ i j, ql i = s → qr j = qntot - s → ∑ k : K s, U s i k * sig s k * V s j k = M i j)
    (i : I) (j : J) :
    assembled S K U V sig i j = if ql i + qr j = qntot then M i j else 0 := by
  -- a summand vanishes unless both supports allow it
  have supp : ∀ s k, U s i k * sig s k * V s j k ≠ 0 → ql i = s ∧ qr j = qntot - s := fun s k h =>
    ⟨hU s i k (left_ne_zero_of_mul (left_ne_zero_of_mul h)), hV s j k (right_ne_zero_of_mul h)⟩
  unfold assembled
  by_cases h : ql i + qr j = qntot
  · rw [if_pos h, Finset.sum_eq_single_of_mem (ql i) (hS i j h)]
    · exact hblock (ql i) (hS i j h) i j rfl (eq_sub_of_add_eq' h)
    · intro s _ hs
      exact Finset.sum_eq_zero fun k _ => by_contra fun hne => hs (supp s k hne).1.symm
  · rw [if_neg h]
    refine Finset.sum_eq_zero fun s _ => Finset.sum_eq_zero fun k _ => by_contra fun hne => h ?_
    rw [(supp s k hne).1, (supp s k hne).2, add_sub_cancel]

/-- columns of different sectors are orthogonal (disjoint supports) -/
theorem svdqn_cross_orthogonal [StarRing R] (hU : SupportU ql K U) (s t : Q) (hst : s ≠ t) (k : K s) (k' : K t) :
    ∑ i : I, star (U s i k) * U t i k' = 0 := by
  refine Finset.sum_eq_zero fun i _ => by_contra fun hne => hst ?_
  rw [← hU s i k (star_ne_zero.mp (left_ne_zero_of_mul hne)), hU t i k' (right_ne_zero_of_mul hne)]

/-- labels: a non-zero entry of column `(s,k)` of `U` sits in a row of label `s`, of `V` in a
    column of label `qntot − s`; so the new bond, labelled `s` (resp. `qntot − s`), satisfies the
    block-sparsity invariant of C06 on both neighbours -/
theorem svdqn_labels (hU : SupportU ql K U) (hV : SupportV qr qntot K V) (s : Q) (k : K s) :
    (∀ i, U s i k ≠ 0 → ql i = s) ∧ (∀ j, V s j k ≠ 0 → qr j + s = qntot) := by
  refine ⟨fun i h => hU s i k h, fun j h => ?_⟩
  rw [hV s j k h, sub_add_cancel]

/-- the economic form sorts all columns globally by singular value: a permutation of the columns
    (the same for `U`, `σ`, `V`) does not change the assembled product -/
theorem assembled_perm {C : Type} [Fintype C] (u : I → C → R) (v : J → C → R) (s : C → R) (e : C ≃ C)
    (i : I) (j : J) : ∑ c, u i (e c) * s (e c) * v j (e c) = ∑ c, u i c * s c * v j c :=
  Equiv.sum_comp e (fun c => u i c * s c * v j c)

/-- "Invalid quantum number" is raised exactly when no sector pairs up -/
theorem no_sector_iff (hS' : ∀ s, s ∈ S ↔ ∃ i j, ql i = s ∧ qr j = qntot - s) :
    S = ∅ ↔ ∀ i j, ql i + qr j ≠ qntot := by
  rw [Finset.eq_empty_iff_forall_notMem]
  constructor
  · intro h i j hq
    exact h (ql i) ((hS' (ql i)).mpr ⟨i, j, rfl, eq_sub_of_add_eq' hq⟩)
  · intro h s hs
    obtain ⟨i, j, hi, hj⟩ := (hS' s).mp hs
    apply h i j
    rw [hi, hj, add_sub_cancel]

end RenoVerif.SvdQn
