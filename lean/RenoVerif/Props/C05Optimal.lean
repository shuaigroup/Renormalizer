/-
  C05 — keeping the LARGEST singular values is the optimal truncation.  `_update_ms` keeps the first
  `m_trunc` entries of the spectrum it is handed (`sigma[:m_trunc]`); `svd_qn` hands it the values
  sorted globally (across symmetry blocks) in descending order.  Theorem: for a non-negative descending
  spectrum, the model's discarded weight `discarded σ m` (Model/Trunc) is ≤ the weight discarded by ANY
  other choice of `m` values — every length, every `m`.  The L2 tie checks the hypotheses (non-negative,
  descending) on the spectrum of every truncating `_update_ms` call of real `compress` sweeps.
-/
import RenoVerif.Props.C05
import Mathlib.Data.List.Sort
import Mathlib.Algebra.Order.Ring.Rat
import Mathlib.Tactic.NormNum.Basic

namespace RenoVerif.TruncOpt

/-- dropping the head of a descending list never increases the sum of a prefix -/
theorem take_tail_le : ∀ (l : List ℚ) (x : ℚ) (m : ℕ), (x :: l).Pairwise (· ≥ ·) → m ≤ l.length →
    (l.take m).sum ≤ ((x :: l).take m).sum
  | _, _, 0, _, _ => le_rfl
  | [], _, k + 1, _, h => absurd h k.not_succ_le_zero
  | y :: t, x, k + 1, hp, h => by
    have hp' := List.pairwise_cons.1 hp
    rw [List.take_succ_cons, List.take_succ_cons, List.sum_cons, List.sum_cons]
    exact add_le_add (hp'.1 y List.mem_cons_self) (take_tail_le t y k hp'.2 (Nat.le_of_succ_le_succ h))

/-- **keeping the largest weights is optimal**: in a descending list of weights, no choice of `m`
    entries (sublist) has a larger sum than the first `m` -/
theorem keep_largest_optimal {s w : List ℚ} (hs : s.Sublist w) (hw : w.Pairwise (· ≥ ·)) :
    s.sum ≤ (w.take s.length).sum := by
  induction hs with
  | slnil => exact le_rfl
  | cons x h ih =>
    exact le_trans (ih (List.pairwise_cons.1 hw).2) (take_tail_le _ x _ hw h.length_le)
  | cons_cons x h ih =>
    rw [List.length_cons, List.take_succ_cons, List.sum_cons, List.sum_cons]
    exact add_le_add le_rfl (ih (List.pairwise_cons.1 hw).2)

open RenoVerif.Trunc

/-- the weights `σ_i²` of a spectrum -/
def weights (σ : List ℚ) : List ℚ := σ.map fun s => s * s

/-- the model's discarded weight (keep the first `m`) is total − kept prefix -/
theorem discarded_eq (σ : List ℚ) (m : ℕ) :
    discarded σ m = (weights σ).sum - ((weights σ).take m).sum := by
  unfold weights
  rw [← List.map_take, ← normSq_eq_sum, ← normSq_eq_sum, ← kept_add_discarded σ m, add_sub_cancel_left]

theorem weights_sorted : ∀ (σ : List ℚ), (∀ s ∈ σ, 0 ≤ s) → σ.Pairwise (· ≥ ·) → (weights σ).Pairwise (· ≥ ·)
  | _, h0, hp =>
    List.pairwise_map.2 <| hp.imp_of_mem fun _ hb hab => mul_self_le_mul_self (h0 _ hb) hab

/-- **the truncation `compress` performs (keep the first `m` singular values of the descending
    spectrum) discards the least possible weight among all choices of `m` values** -/
theorem discarded_optimal (σ : List ℚ) (h0 : ∀ s ∈ σ, 0 ≤ s) (hp : σ.Pairwise (· ≥ ·))
    {s : List ℚ} (hs : s.Sublist (weights σ)) :
    discarded σ s.length ≤ (weights σ).sum - s.sum := by
  rw [discarded_eq]
  exact sub_le_sub_left (keep_largest_optimal hs (weights_sorted σ h0 hp)) _

-- non-vacuity on a concrete spectrum: keeping {3,1} of (3,2,1) discards more than keeping {3,2}
example : discarded [3, 2, 1] 2 ≤ (weights [3, 2, 1]).sum - ([9, 1] : List ℚ).sum := by
  have hs : ([9, 1] : List ℚ).Sublist (weights [3, 2, 1]) := by decide +kernel
  exact discarded_optimal [3, 2, 1] (by decide +kernel) (by decide +kernel) hs

example : ([5, 1] : List ℚ).sum ≤ (([5, 3, 1] : List ℚ).take 2).sum := by
  have h : ([5, 1] : List ℚ).Sublist [5, 3, 1] := by decide +kernel
  exact keep_largest_optimal h (by decide +kernel)

/-- `svd_qn`: the singular values of all symmetry blocks, sorted globally in descending order -/
def globalSpectrum (blocks : List (List ℚ)) : List ℚ := blocks.flatten.mergeSort (fun a b => decide (a ≥ b))

theorem globalSpectrum_perm (blocks : List (List ℚ)) : (globalSpectrum blocks).Perm blocks.flatten :=
  List.mergeSort_perm _ _

theorem globalSpectrum_sorted (blocks : List (List ℚ)) : (globalSpectrum blocks).Pairwise (· ≥ ·) :=
  List.pairwise_mergeSort' (· ≥ ·) blocks.flatten

theorem globalSpectrum_nonneg (blocks : List (List ℚ)) (h0 : ∀ b ∈ blocks, ∀ s ∈ b, 0 ≤ s) :
    ∀ s ∈ globalSpectrum blocks, 0 ≤ s := by
  intro s hs
  have : s ∈ blocks.flatten := (globalSpectrum_perm blocks).mem_iff.1 hs
  obtain ⟨b, hb, hsb⟩ := List.mem_flatten.1 this
  exact h0 b hb s hsb

/-- **block-diagonal SVD followed by the global sort truncates optimally**: keeping the first `m` values of the
    globally sorted spectrum discards no more weight than any other choice of `m` values from all blocks -/
theorem global_truncation_optimal (blocks : List (List ℚ)) (h0 : ∀ b ∈ blocks, ∀ s ∈ b, 0 ≤ s)
    {s : List ℚ} (hs : s.Sublist (weights (globalSpectrum blocks))) :
    discarded (globalSpectrum blocks) s.length ≤ (weights blocks.flatten).sum - s.sum := by
  have h := discarded_optimal (globalSpectrum blocks) (globalSpectrum_nonneg blocks h0) (globalSpectrum_sorted blocks) hs
  have e : (weights (globalSpectrum blocks)).sum = (weights blocks.flatten).sum :=
    ((globalSpectrum_perm blocks).map _).sum_eq
  rwa [e] at h

/-- the global sort is needed: cutting the block-ordered concatenation `[3,1] ++ [2]` after two values
    discards weight 4, the sorted one discards 1 -/
example : discarded ([[3, 1], [2]] : List (List ℚ)).flatten 2 = 4 ∧ discarded (globalSpectrum [[3, 1], [2]]) 2 = 1 := by
  constructor
  · norm_num [discarded, normSq]
  · have e : globalSpectrum [[3, 1], [2]] = [3, 2, 1] := by
      refine List.Perm.eq_of_pairwise (le := (· ≥ ·)) (fun a b _ _ h1 h2 => le_antisymm h2 h1)
        (globalSpectrum_sorted _) (by decide) ((globalSpectrum_perm _).trans ?_)
      show [3, 1, 2].Perm [3, 2, 1]
      exact (List.Perm.swap 2 1 []).cons 3
    rw [e]; norm_num [discarded, normSq]

end RenoVerif.TruncOpt
