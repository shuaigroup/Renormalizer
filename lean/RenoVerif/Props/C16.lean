/-
  C16 — harmonic-oscillator symbols (scaled number basis, exact rational / Gaussian-rational
  entries).  For EVERY basis size the truncated code matrices are restrictions of these infinite
  matrices, so the statements below are the "product in written order up to truncation at the
  highest level" claims for every size `N`, every `s = √(1/2ω)` and every origin `x0`.
  Partial: general powers `x^k`, `p^k` (k > 2), DVR variants and the sine-DVR integrals are
  validated numerically only.
-/
import RenoVerif.Model.SHO
import RenoVerif.Lemmas.GaussRatField
import Mathlib.Algebra.BigOperators.Group.Finset.Basic
import Mathlib.Algebra.BigOperators.Ring.Finset
import Mathlib.Tactic.Ring
import Mathlib.Tactic.SplitIfs
import Mathlib.Tactic.FieldSimp

namespace RenoVerif.SHO

theorem foldl_eq_sum (f : Nat → G) (N : Nat) :
    (List.range N).foldl (fun acc k => acc + f k) 0 = ∑ k ∈ Finset.range N, f k := by
  induction N with
  | zero => rfl
  | succ N ih => rw [List.range_succ, List.foldl_append, ih, Finset.sum_range_succ]; rfl

theorem mulM_eq (a c : IM) (m n : Nat) : mulM a c m n = ∑ k ∈ Finset.range (n + 3), a m k * c k n := by
  unfold mulM; exact foldl_eq_sum _ _

/-- lower band of the right factor: entries more than two rows below the diagonal vanish -/
def Band2 (c : IM) : Prop := ∀ k n, n + 2 < k → c k n = 0

/-- `mulM` IS the infinite matrix product for such right factors: the sum is stable -/
theorem mulM_stable (a c : IM) (hc : Band2 c) (m n K : Nat) (hK : n + 3 ≤ K) :
    ∑ k ∈ Finset.range K, a m k * c k n = mulM a c m n := by
  rw [mulM_eq]
  refine (Finset.sum_subset (Finset.range_mono hK) fun k _ hk => ?_).symm
  rw [hc k n (by have := Finset.mem_range.not.mp hk; omega), mul_zero]

theorem band_b : Band2 b := fun k n h => if_neg (by omega)
theorem band_bd : Band2 bd := fun k n h => if_neg (by omega)
theorem band_add (a c : IM) (ha : Band2 a) (hc : Band2 c) : Band2 (addM a c) := by
  intro k n h; simp [addM, ha k n h, hc k n h]
theorem band_sub (a c : IM) (ha : Band2 a) (hc : Band2 c) : Band2 (subM a c) := by
  intro k n h; simp [subM, ha k n h, hc k n h]
theorem band_smul (x : G) (a : IM) (ha : Band2 a) : Band2 (smulM x a) := by
  intro k n h; simp [smulM, ha k n h]

theorem mulM_add_left (a a' c : IM) : mulM (addM a a') c = addM (mulM a c) (mulM a' c) := by
  funext m n; simp only [mulM_eq, addM, add_mul, Finset.sum_add_distrib]
theorem mulM_add_right (a c c' : IM) : mulM a (addM c c') = addM (mulM a c) (mulM a c') := by
  funext m n; simp only [mulM_eq, addM, mul_add, Finset.sum_add_distrib]
theorem mulM_sub_left (a a' c : IM) : mulM (subM a a') c = subM (mulM a c) (mulM a' c) := by
  funext m n; simp only [mulM_eq, subM, sub_mul, Finset.sum_sub_distrib]
theorem mulM_sub_right (a c c' : IM) : mulM a (subM c c') = subM (mulM a c) (mulM a c') := by
  funext m n; simp only [mulM_eq, subM, mul_sub, Finset.sum_sub_distrib]
theorem mulM_smul_left (x : G) (a c : IM) : mulM (smulM x a) c = smulM x (mulM a c) := by
  funext m n; simp only [mulM_eq, smulM, Finset.mul_sum, mul_assoc]
theorem mulM_smul_right (x : G) (a c : IM) : mulM a (smulM x c) = smulM x (mulM a c) := by
  funext m n; simp only [mulM_eq, smulM, Finset.mul_sum]
  exact Finset.sum_congr rfl fun k _ => mul_left_comm _ _ _
theorem mulM_smul_smul (x y : G) (a c : IM) : mulM (smulM x a) (smulM y c) = smulM (x * y) (mulM a c) := by
  rw [mulM_smul_left, mulM_smul_right]; funext m n; simp only [smulM, mul_assoc]

theorem mulM_row (a c : IM) (hc : Band2 c) (m n k0 : Nat) (ha : ∀ k, k ≠ k0 → a m k = 0) :
    mulM a c m n = a m k0 * c k0 n := by
  -- `k0` may lie beyond the cut-off `n + 3` of `mulM`: `mulM_stable` moves the cut-off past it
  rw [← mulM_stable a c hc m n (n + 3 + (k0 + 1)) (Nat.le_add_right _ _)]
  exact Finset.sum_eq_single_of_mem k0 (Finset.mem_range.mpr (by omega)) fun k _ hk => by rw [ha k hk, zero_mul]

theorem mulM_one_left (a : IM) (ha : Band2 a) : mulM oneM a = a := by
  funext m n
  rw [mulM_row oneM a ha m n m fun k hk => if_neg hk.symm, show oneM m m = 1 from if_pos rfl, one_mul]
theorem mulM_one_right (a : IM) : mulM a oneM = a := by
  funext m n
  rw [mulM_eq, Finset.sum_eq_single_of_mem n (Finset.mem_range.mpr (by omega)) fun k _ hk => by
      rw [show oneM k n = 0 from if_neg hk, mul_zero],
    show oneM n n = 1 from if_pos rfl, mul_one]

theorem b_mulM (c : IM) (hc : Band2 c) (m n : Nat) : mulM b c m n = ofNat (m + 1) * c (m + 1) n := by
  rw [mulM_row b c hc m n (m + 1) fun k hk => if_neg hk.symm, show b m (m + 1) = ofNat (m + 1) from if_pos rfl]
theorem bd_mulM_succ (c : IM) (hc : Band2 c) (m n : Nat) : mulM bd c (m + 1) n = c m n := by
  rw [mulM_row bd c hc (m + 1) n m fun k hk => if_neg (by omega), show bd (m + 1) m = 1 from if_pos rfl, one_mul]
theorem bd_mulM_zero (c : IM) (n : Nat) : mulM bd c 0 n = 0 := by
  rw [mulM_eq]
  exact Finset.sum_eq_zero fun k _ => by rw [show bd 0 k = 0 from if_neg (by omega), zero_mul]

theorem ofNat_mul (j k : Nat) : ofNat j * ofNat k = ofNat (j * k) := by
  apply GaussRat.ext <;> simp [ofNat]
theorem ofNat_zero : ofNat 0 = 0 := by apply GaussRat.ext <;> simp [ofNat]
theorem ofNat_succ (k : Nat) : ofNat (k + 1) = ofNat k + 1 := by apply GaussRat.ext <;> simp [ofNat]

theorem mul_b_b : mulM b b = b_b := by
  funext m n
  rw [b_mulM b band_b]
  simp only [b, b_b]
  by_cases h : m + 2 = n
  · subst h
    rw [if_pos rfl, if_pos rfl, ofNat_mul, Nat.mul_comm]
    rfl  -- `m + 2 - 1` reduces to `m + 1`
  · rw [if_neg h, if_neg h, mul_zero]

theorem mul_bd_bd : mulM bd bd = bd_bd := by
  funext m n
  cases m with
  | zero =>
    rw [bd_mulM_zero]
    exact (if_neg (by omega)).symm
  | succ m =>
    rw [bd_mulM_succ bd band_bd]
    exact if_congr (by omega) rfl rfl

theorem mul_bd_b : mulM bd b = bd_b := by
  funext m n
  cases m with
  | zero =>
    rw [bd_mulM_zero, bd_b]
    split_ifs with h
    · rw [← h, ofNat_zero]
    · rfl
  | succ m => exact bd_mulM_succ b band_b m n

theorem mul_b_bd : mulM b bd = b_bd := by
  funext m n
  rw [b_mulM bd band_bd]
  simp only [bd, b_bd]
  by_cases h : m = n
  · subst h
    rw [if_pos rfl, if_pos rfl, mul_one]
  · rw [if_neg (show ¬ m + 1 = n + 1 by omega), if_neg h, mul_zero]

/-- canonical commutation relation `[b, b†] = 1` (exact at the untruncated level; after
    truncation to `N` levels it holds on the block `m, n < N − 1`) -/
theorem ccr_b : subM (mulM b bd) (mulM bd b) = oneM := by
  rw [mul_b_bd, mul_bd_b]
  funext m n
  simp only [subM, b_bd, bd_b, oneM]
  by_cases h : m = n
  · simp only [if_pos h, ofNat_succ, add_sub_cancel_left]
  · simp only [if_neg h, sub_zero]

theorem ofRat_mul (p q : Rat) : ofRat p * ofRat q = ofRat (p * q) := by
  apply GaussRat.ext <;> simp [ofRat]
theorem ofRat_add (p q : Rat) : ofRat p + ofRat q = ofRat (p + q) := by
  apply GaussRat.ext <;> simp [ofRat]

/-- **`x^2` symbol = x·x**, every origin `x0`, every `s` -/
theorem x_sq (P : Par) : some (mulM (xM P) (xM P)) = opmat P "x^2" := by
  rw [opmat, xM]
  simp only [mulM_add_left, mulM_add_right, mulM_smul_left, mulM_smul_right, mulM_one_right,
    mulM_one_left bd band_bd, mulM_one_left b band_b, mul_bd_bd, mul_bd_b, mul_b_bd, mul_b_b]
  congr 1
  funext m n
  -- the table's scalars `ofRat (x0 * x0)`, `ofRat (2 * x0 * s)`, `ofRat (s * s)` in terms of `ofRat x0`, `ofRat s`
  simp only [addM, smulM, two_mul, ← ofRat_mul, ← ofRat_add]
  ring

theorem iG_mul_iG : iG * iG = -1 := by apply GaussRat.ext <;> simp [iG]

theorem pcoef_sq (s : Rat) :
    iG * ofRat (1 / (2 * s)) * (iG * ofRat (1 / (2 * s))) = 0 - ofRat (1 / (4 * s * s)) := by
  rw [mul_mul_mul_comm, iG_mul_iG, ofRat_mul, neg_one_mul, zero_sub,
    show 1 / (2 * s) * (1 / (2 * s)) = 1 / (4 * s * s) by ring]

/-- `s · (i/2s) = i/2`, written with the table's constant `−i/2` -/
theorem s_mul_pcoef (s : Rat) (hs : s ≠ 0) : ofRat s * (iG * ofRat (1 / (2 * s))) = -⟨0, -1/2⟩ := by
  rw [mul_left_comm, ofRat_mul, show s * (1 / (2 * s)) = 1 / 2 by field_simp]
  decide +kernel

/-- **`p^2` symbol = p·p** -/
theorem p_sq (P : Par) (hs : P.s ≠ 0) : some (mulM (pM P) (pM P)) = opmat P "p^2" := by
  rw [opmat, pM, mulM_smul_smul, pcoef_sq]
  simp only [mulM_sub_left, mulM_sub_right, mul_bd_bd, mul_bd_b, mul_b_bd, mul_b_b]
  congr 1
  funext m n
  simp only [addM, subM, smulM]
  ring

/-- `y p` with `y = x − x0 = s(b†+b)`: the product in the written order -/
theorem y_p (P : Par) (hs : P.s ≠ 0) :
    some (mulM (smulM (ofRat P.s) (addM bd b)) (pM P)) = opmat P "y p" := by
  rw [opmat, pM, mulM_smul_smul, s_mul_pcoef P.s hs]
  simp only [mulM_add_left, mulM_sub_right, mul_bd_bd, mul_bd_b, mul_b_bd, mul_b_b]
  congr 1
  funext m n
  simp only [addM, subM, smulM]
  ring

/-- `p y`: the other order — differs from `y p` exactly by the commutator -/
theorem p_y (P : Par) (hs : P.s ≠ 0) :
    some (mulM (pM P) (smulM (ofRat P.s) (addM bd b))) = opmat P "p y" := by
  rw [opmat, pM, mulM_smul_smul, mul_comm _ (ofRat P.s), s_mul_pcoef P.s hs]
  simp only [mulM_sub_left, mulM_add_right, mul_bd_bd, mul_bd_b, mul_b_bd, mul_b_b]
  congr 1
  funext m n
  simp only [addM, subM, smulM]
  ring

/-- `[α(b†+b), β(b†−b)] = 2αβ`: bilinearity reduces it to `[b, b†] = 1` -/
theorem comm_y_p (α β : G) :
    subM (mulM (smulM α (addM bd b)) (smulM β (subM bd b))) (mulM (smulM β (subM bd b)) (smulM α (addM bd b)))
      = smulM (2 * (α * β)) oneM := by
  rw [mulM_smul_smul, mulM_smul_smul, ← ccr_b]
  simp only [mulM_add_left, mulM_add_right, mulM_sub_left, mulM_sub_right]
  funext m n
  simp only [subM, addM, smulM]
  ring

/-- canonical commutator `[y, p] = i` (hence `[x, p] = i` for every origin) -/
theorem ccr_xp (P : Par) (hs : P.s ≠ 0) :
    subM (mulM (smulM (ofRat P.s) (addM bd b)) (pM P)) (mulM (pM P) (smulM (ofRat P.s) (addM bd b)))
      = smulM iG oneM := by
  rw [pM, comm_y_p, two_mul, s_mul_pcoef P.s hs, show -(⟨0, -1/2⟩ : G) + -⟨0, -1/2⟩ = iG by decide +kernel]

-- the pinned table (defect D5) returned `p y` for the symbol "x p": the two closed forms differ
example : (smulM (⟨0, -1/2⟩ : G) (subM (addM (subM b_b bd_bd) bd_b) b_bd)) 0 0
    ≠ (smulM (⟨0, -1/2⟩ : G) (addM (subM (subM b_b bd_bd) bd_b) b_bd)) 0 0 := by decide +kernel

end RenoVerif.SHO
