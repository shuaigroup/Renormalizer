/-
  C10 — imaginary-time / thermal propagation (partial: convergence to the Gibbs state is C09's
  numerical part in imaginary time).  Proved here:
  * a bond-dimension-1 operator chain (the closed-form propagator of a purely local vibrational
    Hamiltonian) has dense matrix elements equal to the PRODUCT of its local factors, i.e. it is the
    tensor product `⊗_i e^{x h_i}`; a scalar `e^{shift·x}` multiplied into one site multiplies the
    whole operator;
  * the one-step Runge–Kutta / Taylor skeleton of C09 holds verbatim for the generator `−τH`
    (those theorems are over an arbitrary linear generator);
  * phase bookkeeping of `evolve_exact`: the offset phase belongs to the RESULT's prefactor and
    the input is left untouched — with a decidable witness that the pinned code (defect D3) does
    neither.
-/
import RenoVerif.Lemmas.ChainDot
import Mathlib.Algebra.Module.LinearMap.Basic
import Mathlib.Algebra.Order.Ring.Rat
import Mathlib.LinearAlgebra.Matrix.Trace
import Mathlib.LinearAlgebra.Matrix.Notation
import Mathlib.Tactic.Ring

namespace RenoVerif.Chain
open Matrix

variable {R : Type} [CommRing R]

/-- one local matrix per site -/
def LocalOps (R : Type) : List ℕ → Type
  | [] => Unit
  | d :: ds => (Fin d → Fin d → R) × LocalOps R ds

/-- the bond-1 operator chain built from local matrices (`exact_propagator`) -/
def toOpChain : {ds : List ℕ} → LocalOps R ds → OpChain R ds 1 1
  | [], _ => .nil 1
  | _ :: _, (h, rest) => .cons (fun s t => Matrix.of fun _ _ => h s t) (toOpChain rest)

def locProd : {ds : List ℕ} → LocalOps R ds → Cfg ds → Cfg ds → R
  | [], _, _, _ => 1
  | _ :: _, (h, rest), (s, σ), (t, τ) => h s t * locProd rest σ τ

/-- **closed-form propagator**: dense matrix element = product of local matrix elements -/
theorem bond1_dense : ∀ {ds : List ℕ} (L : LocalOps R ds) (σ τ : Cfg ds),
    ampOp (toOpChain L) σ τ 0 0 = locProd L σ τ
  | [], _, _, _ => Matrix.one_apply_eq 0
  | _ :: _, (h, rest), (s, σ), (t, τ) => by
    simp only [toOpChain, ampOp, locProd]
    rw [Matrix.mul_apply, Fintype.sum_unique, Fin.default_eq_zero, bond1_dense rest σ τ]
    rfl

/-- scaling one local factor (the `e^{shift·x}` that `exact_propagator` multiplies in at `qnidx`) -/
def scaleLocal : {ds : List ℕ} → ℕ → R → LocalOps R ds → LocalOps R ds
  | [], _, _, u => u
  | _ :: _, 0, c, (h, rest) => (fun s t => c * h s t, rest)
  | _ :: _, k+1, c, (h, rest) => (h, scaleLocal k c rest)

theorem locProd_scale : ∀ {ds : List ℕ} (k : ℕ) (c : R) (L : LocalOps R ds) (σ τ : Cfg ds), k < ds.length →
    locProd (scaleLocal k c L) σ τ = c * locProd L σ τ
  | [], _, _, _, _, _, h => absurd h (Nat.not_lt_zero _)
  | _ :: _, 0, c, (h, rest), (s, σ), (t, τ), _ => mul_assoc c (h s t) (locProd rest σ τ)
  | _ :: _, k+1, c, (h, rest), (s, σ), (t, τ), hk => by
    simp only [scaleLocal, locProd]
    rw [locProd_scale k c rest σ τ (Nat.lt_of_succ_lt_succ hk), mul_left_comm]

end RenoVerif.Chain

namespace RenoVerif.Phase
variable {K M : Type} [Field K] [AddCommGroup M] [Module K M]

/-- a state = scalar prefactor × tensor part -/
structure S (K M : Type) where
  coeff : K
  vec : M

def repr (s : S K M) : M := s.coeff • s.vec

/-- `evolve_exact` as it must be: returns (input afterwards, result) -/
def evolveExactFixed (U : M →ₗ[K] M) (phase : K) (s : S K M) : S K M × S K M :=
  (s, ⟨s.coeff * phase, U s.vec⟩)

/-- `evolve_exact` of the pinned code: the phase is multiplied into the INPUT's prefactor after
    the result (which copied the old prefactor) has been built -/
def evolveExactPinned (U : M →ₗ[K] M) (phase : K) (s : S K M) : S K M × S K M :=
  (⟨s.coeff * phase, s.vec⟩, ⟨s.coeff, U s.vec⟩)

/-- **phase bookkeeping**: result·prefactor = phase · U (input·prefactor), and the input is unchanged -/
theorem evolveExactFixed_spec (U : M →ₗ[K] M) (phase : K) (s : S K M) :
    repr (evolveExactFixed U phase s).2 = phase • U (repr s) ∧ (evolveExactFixed U phase s).1 = s := by
  refine ⟨?_, rfl⟩
  show (s.coeff * phase) • U s.vec = phase • U (s.coeff • s.vec)
  rw [U.map_smul, smul_smul, mul_comm]

/-- the pinned variant violates both halves (K = M = ℚ, U = id, phase = 2, state (1, 1)) -/
theorem evolveExactPinned_violates :
    let r := evolveExactPinned (K := ℚ) (M := ℚ) LinearMap.id 2 ⟨1, 1⟩
    repr r.2 ≠ (2 : ℚ) • (LinearMap.id : ℚ →ₗ[ℚ] ℚ) (repr (⟨1, 1⟩ : S ℚ ℚ)) ∧ repr r.1 ≠ repr (⟨1, 1⟩ : S ℚ ℚ) := by
  decide +kernel

end RenoVerif.Phase

namespace RenoVerif.Thermal
open Matrix

variable {n : Type} [Fintype n] [DecidableEq n] {K : Type} [CommRing K] [StarRing K]

/-- **purification**: the expectation value the code computes on the purified state `A` (an `MpDm`: a matrix with a
    physical and an auxiliary index), `⟨A, O A⟩ = Tr(Aᴴ O A)`, is `Tr(O ρ)` with `ρ = A Aᴴ` -/
theorem purification_expectation (A O : Matrix n n K) : trace (Aᴴ * O * A) = trace (O * (A * Aᴴ)) := by
  rw [Matrix.mul_assoc, Matrix.trace_mul_comm, Matrix.mul_assoc]

/-- `m` steps with a Hermitian one-step propagator `U = e^{−τH}` applied to the maximally entangled state (the identity)
    give `A = U^m`, hence `ρ = A Aᴴ = U^(2m)`: propagating the purification to β/2 yields the density operator of β -/
theorem thermal_steps (U : Matrix n n K) (hU : Uᴴ = U) (m : ℕ) : (U ^ m) * (U ^ m)ᴴ = U ^ (2 * m) := by
  rw [Matrix.conjTranspose_pow, hU, ← pow_add, two_mul]

/-- normalising the purified state after every step (`normalize("mps_and_coeff")`) only rescales `ρ`: the ratio
    `Tr(Oρ)/Tr(ρ)` reported as thermal average is unaffected -/
theorem purification_scale (A O : Matrix n n K) (c : K) :
    trace (O * ((c • A) * (c • A)ᴴ)) = (c * star c) * trace (O * (A * Aᴴ)) := by
  simp only [Matrix.conjTranspose_smul, Matrix.smul_mul, Matrix.mul_smul, Matrix.trace_smul, smul_eq_mul]
  ring

/-- the two together: after `m` normalised steps the reported average of `O` is `Tr(O U^{2m}) / Tr(U^{2m})`, whatever the
    (non-zero) normalisation constants were -/
theorem thermal_average {F : Type} [Field F] [StarRing F] (U O : Matrix n n F) (hU : Uᴴ = U) (m : ℕ) (c : F)
    (hc : c * star c ≠ 0) :
    trace (O * ((c • U ^ m) * (c • U ^ m)ᴴ)) / trace ((c • U ^ m) * (c • U ^ m)ᴴ)
      = trace (O * U ^ (2 * m)) / trace (U ^ (2 * m)) := by
  have h1 := purification_scale (U ^ m) O c
  have h2 := purification_scale (U ^ m) (1 : Matrix n n F) c
  rw [Matrix.one_mul, Matrix.one_mul] at h2
  rw [h1, h2, thermal_steps U hU m, mul_div_mul_left _ _ hc]

example : (!![2, 0; 0, 3] : Matrix (Fin 2) (Fin 2) ℚ)ᴴ = !![2, 0; 0, 3] := by
  decide +kernel

end RenoVerif.Thermal
