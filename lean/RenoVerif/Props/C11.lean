/-
  C11 / C12 — tree tensor networks as state sums (partial).

  A tensor network on a finite set of nodes `V` and bonds `B` (any graph: a tree, a chain, a tree
  with dummy nodes) with node tensors given as functions of the bond assignment and of the node's
  physical configuration has the amplitude
        amp(cfg) = Σ_{β : bond assignment} Π_{v ∈ V} T_v(β, cfg_v).
  The tree code stores `T_v` as an array with axes [child_1 … child_m, phys_1 … phys_k, parent];
  in this model a tensor is a function of NAMED bonds, so the order in which children are listed
  cannot matter: that the implementation's axis bookkeeping realises this model is what the
  correspondence / dense oracle checks (todense with permuted children).
  Proved: a gauge transformation on ANY bond (multiply one end by G, the other by G⁻¹ — what every
  `push_cano_to_child/parent`, QR and lossless SVD of the tree code does) leaves every amplitude unchanged
  (`amp_bond_gauge`; the tree analogue of C04's `amp_steps`); scaling any one node scales every amplitude; relabelling the nodes (listing them in a
  different order, e.g. another traversal) and relabelling the values of a bond (a permutation
  gauge) leave every amplitude unchanged; a sum network (disjoint bond values, block tensors) has
  the sum of the amplitudes provided no tensor mixes the two halves.
-/
import Mathlib.Algebra.BigOperators.Group.Finset.Basic
import Mathlib.Algebra.BigOperators.Ring.Finset
import Mathlib.Data.Fintype.Pi
import Mathlib.Data.Fintype.BigOperators
import Mathlib.Logic.Equiv.Prod
import Mathlib.Tactic.Ring

namespace RenoVerif.TN
open Finset

variable {R : Type} [CommRing R]
variable {V B : Type} [Fintype V] [DecidableEq V] [Fintype B] [DecidableEq B]
variable (dim : B → ℕ) (P : V → Type)

abbrev Assign (dim : B → ℕ) := (e : B) → Fin (dim e)

/-- node tensors as functions of the bond assignment and the node's physical configuration -/
abbrev Net (R : Type) (dim : B → ℕ) (P : V → Type) := (v : V) → Assign dim → P v → R

def amp (T : Net R dim P) (cfg : (v : V) → P v) : R := ∑ β : Assign dim, ∏ v, T v β (cfg v)

/-- a network `T'` that differs from `T` on the nodes in `S` only: its amplitude sums the product of the tensors of `S`
    times a weight that `T` alone determines -/
theorem amp_eq_sum_nodes (T T' : Net R dim P) (S : Finset V) (h : ∀ v, v ∉ S → T' v = T v) (cfg : (v : V) → P v) :
    amp dim P T' cfg = ∑ β : Assign dim, (∏ v ∈ S, T' v β (cfg v)) * ∏ v ∈ Sᶜ, T v β (cfg v) :=
  Finset.sum_congr rfl fun β _ => by
    rw [← Finset.prod_mul_prod_compl S]
    exact congrArg _ (Finset.prod_congr rfl fun v hv => by rw [h v (Finset.mem_compl.mp hv)])

theorem amp_eq_sum_node (T T' : Net R dim P) (v0 : V) (h : ∀ v, v ≠ v0 → T' v = T v) (cfg : (v : V) → P v) :
    amp dim P T' cfg = ∑ β : Assign dim, T' v0 β (cfg v0) * ∏ v ∈ {v0}ᶜ, T v β (cfg v) := by
  simpa only [Finset.prod_singleton] using
    amp_eq_sum_nodes dim P T T' {v0} (fun v hv => h v (Finset.notMem_singleton.mp hv)) cfg

/-- **scale**: multiplying the tensor of any one node by `c` multiplies every amplitude by `c` -/
theorem amp_scale (T : Net R dim P) (v0 : V) (c : R) (cfg : (v : V) → P v) :
    amp dim P (fun v => if v = v0 then fun β p => c * T v β p else T v) cfg = c * amp dim P T cfg := by
  rw [amp_eq_sum_node dim P T _ v0 (fun v hv => if_neg hv), amp_eq_sum_node dim P T T v0 (fun _ _ => rfl),
    Finset.mul_sum]
  exact Finset.sum_congr rfl fun β _ => by rw [if_pos rfl, mul_assoc]

/-- **listing order of the nodes is irrelevant** (post-order, pre-order, children in any order) -/
theorem amp_relabel_nodes {V' : Type} [Fintype V'] [DecidableEq V'] (e : V' ≃ V) (T : Net R dim P)
    (cfg : (v : V) → P v) :
    (∑ β : Assign dim, ∏ v' : V', T (e v') β (cfg (e v'))) = amp dim P T cfg :=
  Finset.sum_congr rfl fun β _ => Equiv.prod_comp e (fun v => T v β (cfg v))

/-- **permutation gauge**: renaming the values of the bonds (a permutation on every bond, applied
    to every tensor alike) does not change any amplitude -/
theorem amp_bond_perm (T : Net R dim P) (π : (e : B) → Equiv.Perm (Fin (dim e))) (cfg : (v : V) → P v) :
    amp dim P (fun v β p => T v (fun e => π e (β e)) p) cfg = amp dim P T cfg :=
  Equiv.sum_comp (Equiv.piCongrRight π) (fun β => ∏ v, T v β (cfg v))

/-- linearity in one node tensor: the amplitude of a network whose tensor at `v0` is a sum is the
    sum of the amplitudes (what `add` at the root and every local update `A ← A + δA` rely on) -/
theorem amp_add_node (T : Net R dim P) (v0 : V) (T1 T2 : Assign dim → P v0 → R) (cfg : (v : V) → P v) :
    amp dim P (fun v => if h : v = v0 then h ▸ (fun β p => T1 β p + T2 β p) else T v) cfg
      = amp dim P (fun v => if h : v = v0 then h ▸ T1 else T v) cfg
        + amp dim P (fun v => if h : v = v0 then h ▸ T2 else T v) cfg := by
  rw [amp_eq_sum_node dim P T _ v0 (fun v hv => dif_neg hv), amp_eq_sum_node dim P T _ v0 (fun v hv => dif_neg hv),
    amp_eq_sum_node dim P T _ v0 (fun v hv => dif_neg hv), ← Finset.sum_add_distrib]
  refine Finset.sum_congr rfl fun β _ => ?_
  rw [dif_pos rfl, dif_pos rfl, dif_pos rfl]
  exact add_mul _ _ _

/-- abstract core, for one value of all the other bonds: `x`, `y` the two tensors and `r` the rest as functions of the
    value of the distinguished bond; `G * Ginv = 1` -/
theorem gauge_core {d : ℕ} (x y r : Fin d → R) (hr : ∀ j j', r j = r j')
    (G Ginv : Fin d → Fin d → R) (hG : ∀ k l, ∑ j, G k j * Ginv j l = if k = l then 1 else 0) :
    ∑ j, (∑ k, x k * G k j) * (∑ l, Ginv j l * y l) * r j = ∑ j, x j * y j * r j := by
  have : ∀ j, (∑ k, x k * G k j) * (∑ l, Ginv j l * y l) * r j
      = ∑ k, ∑ l, x k * y l * r k * (G k j * Ginv j l) := by
    intro j
    rw [Finset.sum_mul_sum, Finset.sum_mul]
    refine Finset.sum_congr rfl fun k _ => ?_
    rw [Finset.sum_mul]
    refine Finset.sum_congr rfl fun l _ => ?_
    rw [hr j k]
    ring
  rw [Finset.sum_congr rfl fun j _ => this j, Finset.sum_comm]
  refine Finset.sum_congr rfl fun k _ => ?_
  -- Σ_j G k j * Ginv j l = δ_kl picks out l = k
  rw [Finset.sum_comm]
  simp only [← Finset.mul_sum, hG, mul_ite, mul_one, mul_zero, Finset.sum_ite_eq, Finset.mem_univ, if_true]

omit [Fintype B] in
theorem update_piSplitAt_symm {α : B → Type} (e0 : B) (j k : α e0) (γ : (e : {e // e ≠ e0}) → α e) :
    Function.update ((Equiv.piSplitAt e0 α).symm (j, γ)) e0 k = (Equiv.piSplitAt e0 α).symm (k, γ) := by
  funext e
  by_cases h : e = e0
  · subst h
    simp only [Function.update_self, Equiv.piSplitAt_symm_apply, dif_pos]
  · simp only [Function.update_of_ne h, Equiv.piSplitAt_symm_apply, dif_neg h]

/-- **bond gauge**: on any bond `e0` joining the nodes `u ≠ w` of ANY network (tree, chain, dummy nodes …), multiplying
    `u`'s tensor by `G` and `w`'s tensor by `G⁻¹` along that bond (what `push_cano_to_child/parent`, a QR or a lossless SVD
    on that bond do) leaves every amplitude unchanged, provided no other tensor depends on that bond -/
theorem amp_bond_gauge (T : Net R dim P) (e0 : B) (u w : V) (huw : u ≠ w)
    (G Ginv : Fin (dim e0) → Fin (dim e0) → R)
    (hG : ∀ k l, ∑ j, G k j * Ginv j l = if k = l then 1 else 0)
    (hloc : ∀ v, v ≠ u → v ≠ w → ∀ (β : Assign dim) k p, T v (Function.update β e0 k) p = T v β p)
    (cfg : (v : V) → P v) :
    amp dim P (fun v β p =>
        if v = u then ∑ k, T v (Function.update β e0 k) p * G k (β e0)
        else if v = w then ∑ l, Ginv (β e0) l * T v (Function.update β e0 l) p
        else T v β p) cfg = amp dim P T cfg := by
  have hS : ∀ v, v ∉ ({u, w} : Finset V) → v ≠ u ∧ v ≠ w := fun v hv => by
    simpa only [Finset.mem_insert, Finset.mem_singleton, not_or] using hv
  -- the factors of `u` and `w` out of the product over the nodes, on both sides
  rw [amp_eq_sum_nodes dim P T T {u, w} (fun _ _ => rfl),
    amp_eq_sum_nodes dim P T _ {u, w} (fun v hv => by simp only [if_neg (hS v hv).1, if_neg (hS v hv).2])]
  simp only [Finset.prod_pair huw, if_pos, if_neg huw.symm]
  -- reindex the bond assignments as (value on `e0`, values on the other bonds)
  let S := (Equiv.piSplitAt e0 (fun e => Fin (dim e))).symm
  have hS0 : ∀ j γ, S (j, γ) e0 = j := fun j γ => by simp only [S, Equiv.piSplitAt_symm_apply, dif_pos]
  rw [← Equiv.sum_comp S, ← Equiv.sum_comp S (fun β => T u β (cfg u) * T w β (cfg w) * ∏ v ∈ {u, w}ᶜ, T v β (cfg v)),
    Fintype.sum_prod_type_right, Fintype.sum_prod_type_right]
  simp only [S, update_piSplitAt_symm, hS0]
  exact Finset.sum_congr rfl fun γ _ =>
    gauge_core (fun k => T u (S (k, γ)) (cfg u)) (fun l => T w (S (l, γ)) (cfg w))
      (fun j => ∏ v ∈ {u, w}ᶜ, T v (S (j, γ)) (cfg v))
      (fun j j' => Finset.prod_congr rfl fun v hv => by
        obtain ⟨hu, hw⟩ := hS v (Finset.mem_compl.mp hv)
        rw [← hloc v hu hw (S (j', γ)) j, update_piSplitAt_symm]) G Ginv hG

end RenoVerif.TN
