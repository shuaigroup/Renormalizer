/-
  C05 — truncation respects the bond limit; single-cut error = discarded weight.
-/
import RenoVerif.Model.Trunc
import Mathlib.LinearAlgebra.Matrix.Trace
import Mathlib.LinearAlgebra.Matrix.ConjTranspose
import Mathlib.Data.Matrix.Mul
import Mathlib.Algebra.Order.Ring.Rat
import Mathlib.Algebra.Order.BigOperators.Group.List

namespace RenoVerif.Trunc

theorem aboveThr_le_len (thr : Rat) (σ : List Rat) : aboveThr thr σ ≤ σ.length :=
  List.length_filter_le _ _

theorem thresholdM_le_len (thr : Rat) (σ : List Rat) (hne : σ ≠ []) : thresholdM thr σ ≤ σ.length :=
  Nat.max_le.2 ⟨aboveThr_le_len thr σ, List.length_pos_of_ne_nil hne⟩

/-- at least one state survives the threshold criterion (the all-zero tensor of defect D10 cannot occur) -/
theorem thresholdM_pos (thr : Rat) (σ : List Rat) : 1 ≤ thresholdM thr σ :=
  Nat.le_max_right _ 1

/-- fixed criterion: never more than the configured limit of that bond, never more than available -/
theorem fixedM_le (maxDims : List Nat) (n idx : Nat) (left : Bool) (m : Nat)
    (h : fixedM maxDims n idx left = some m) :
    m ≤ n ∧ ∃ lim, maxDims[if left then idx + 1 else idx]? = some lim ∧ m ≤ lim := by
  unfold fixedM at h
  obtain ⟨lim, hl, rfl⟩ := Option.map_eq_some_iff.1 h
  exact ⟨Nat.min_le_right lim n, lim, hl, Nat.min_le_left lim n⟩

theorem computeM_both_eq_some {thr : Rat} {maxDims : List Nat} {σ : List Rat} {idx : Nat} {left : Bool}
    {m : Nat} : computeM .both thr maxDims σ idx left = some m ↔
      ∃ f, fixedM maxDims σ.length idx left = some f ∧ min (thresholdM thr σ) f = m :=
  Option.map_eq_some_iff

/-- `both` is the smaller of the two counts -/
theorem computeM_both (thr : Rat) (maxDims : List Nat) (σ : List Rat) (idx : Nat) (left : Bool) (f : Nat)
    (hf : fixedM maxDims σ.length idx left = some f) :
    computeM .both thr maxDims σ idx left = some (min (thresholdM thr σ) f) :=
  computeM_both_eq_some.2 ⟨f, hf, rfl⟩

/-- **bond limit**: whichever criterion involving `fixed` is selected, the kept count obeys the
    per-bond limit (with the code's left/right bond-index convention) -/
theorem computeM_le_limit (crit : Criteria) (hc : crit ≠ .threshold) (thr : Rat) (maxDims : List Nat)
    (σ : List Rat) (idx : Nat) (left : Bool) (m : Nat) (h : computeM crit thr maxDims σ idx left = some m) :
    ∃ lim, maxDims[if left then idx + 1 else idx]? = some lim ∧ m ≤ lim := by
  cases crit with
  | threshold => exact absurd rfl hc
  | fixed => exact (fixedM_le maxDims σ.length idx left m h).2
  | both =>
    obtain ⟨f, hf, rfl⟩ := computeM_both_eq_some.1 h
    obtain ⟨lim, hl, hle⟩ := (fixedM_le maxDims σ.length idx left f hf).2
    exact ⟨lim, hl, (Nat.min_le_right _ f).trans hle⟩

theorem computeM_le_len (crit : Criteria) (thr : Rat) (maxDims : List Nat) (σ : List Rat) (idx : Nat)
    (left : Bool) (m : Nat) (hne : σ ≠ []) (h : computeM crit thr maxDims σ idx left = some m) : m ≤ σ.length := by
  cases crit with
  | threshold => exact Option.some.inj h ▸ thresholdM_le_len thr σ hne
  | fixed => exact (fixedM_le maxDims σ.length idx left m h).1
  | both =>
    obtain ⟨f, _, rfl⟩ := computeM_both_eq_some.1 h
    exact (Nat.min_le_left _ f).trans (thresholdM_le_len thr σ hne)

/-- for a non-increasing spectrum the entries above the threshold form a prefix: the kept states
    are exactly the `thresholdM` largest ones -/
theorem threshold_prefix (c : Rat) : ∀ (σ : List Rat), σ.Pairwise (· ≥ ·) → (∀ s ∈ σ, 0 ≤ s) →
    σ.filter (fun s => decide (c < s * s)) = σ.take (σ.filter fun s => decide (c < s * s)).length
  | [], _, _ => rfl
  | s :: σ, hs, hn => by
    have hs' := List.pairwise_cons.mp hs
    have ih := threshold_prefix c σ hs'.2 (fun x hx => hn x (List.mem_cons_of_mem _ hx))
    by_cases h : c < s * s
    · simp only [List.filter_cons, h, decide_true, if_true, List.length_cons, List.take_succ_cons]
      rw [← ih]
    · -- nothing later can pass: every later entry is ≤ s and non-negative
      have hall : σ.filter (fun x => decide (c < x * x)) = [] :=
        List.filter_eq_nil_iff.2 fun x hx hc => h <| (of_decide_eq_true hc).trans_le <|
          mul_self_le_mul_self (hn x (List.mem_cons_of_mem _ hx)) (hs'.1 x hx)
      simp [h, hall]

/-- no entry of a flat two-entry spectrum exceeds the threshold 0.9 (the situation of defect D10):
    the kept count is nevertheless 1 -/
theorem flat_spectrum_keeps_one : aboveThr (9/10) [1, 1] = 0 ∧ thresholdM (9/10) [1, 1] = 1 := by decide +kernel

theorem normSq_eq_sum (σ : List Rat) : normSq σ = (σ.map fun s => s * s).sum := by
  induction σ with
  | nil => rfl
  | cons s σ ih => rw [List.map_cons, List.sum_cons, ← ih]; rfl

theorem normSq_append (a b : List Rat) : normSq (a ++ b) = normSq a + normSq b := by
  simp only [normSq_eq_sum, List.map_append, List.sum_append]

theorem normSq_nonneg (σ : List Rat) : 0 ≤ normSq σ := by
  rw [normSq_eq_sum]
  refine List.sum_nonneg fun x hx => ?_
  obtain ⟨s, _, rfl⟩ := List.mem_map.1 hx
  exact mul_self_nonneg s

/-- kept weight + discarded weight = total weight; hence the norm never grows at a cut -/
theorem kept_add_discarded (σ : List Rat) (m : Nat) :
    normSq (σ.take m) + discarded σ m = normSq σ := by
  unfold discarded
  rw [← normSq_append, List.take_append_drop]

theorem kept_le_total (σ : List Rat) (m : Nat) : normSq (σ.take m) ≤ normSq σ :=
  (le_add_of_nonneg_right (normSq_nonneg (σ.drop m))).trans_eq (kept_add_discarded σ m)

/-! ### single cut, as matrices: `ψ = U·D·Vᴴ` with orthonormal columns -/
section SVD
open Matrix
variable {K : Type} [CommRing K] [StarRing K] {n m k : ℕ}

/-- Frobenius norm² of `U·D·Vᴴ` with `UᴴU = 1`, `VᴴV = 1` is `tr(DᴴD)`.
    With `D` the kept singular values this is the norm of the truncated state; with `D` the
    dropped ones (the difference `ψ − ψ_M = U·(D − D_M)·Vᴴ`) it is the truncation error:
    error² = Σ discarded σ², norm² = Σ kept σ². -/
theorem frobenius_of_orthonormal_factors (U : Matrix (Fin n) (Fin k) K) (V : Matrix (Fin m) (Fin k) K)
    (D : Matrix (Fin k) (Fin k) K) (hU : Uᴴ * U = 1) (hV : Vᴴ * V = 1) :
    trace ((U * D * Vᴴ)ᴴ * (U * D * Vᴴ)) = trace (Dᴴ * D) := by
  -- `V` leaves under the trace: tr(V (UD)ᴴ (UD) Vᴴ) = tr((UD)ᴴ (UD) (Vᴴ V))
  rw [conjTranspose_mul, conjTranspose_conjTranspose, Matrix.mul_assoc, Matrix.trace_mul_comm,
    Matrix.mul_assoc, Matrix.mul_assoc, hV, Matrix.mul_one]
  -- `U` leaves the Gram matrix: (UD)ᴴ (UD) = Dᴴ (Uᴴ U) D
  rw [conjTranspose_mul, Matrix.mul_assoc, ← Matrix.mul_assoc Uᴴ, hU, Matrix.one_mul]

/-- the difference of the full and the truncated expansion is again of the form `U·D'·Vᴴ` -/
theorem truncation_difference (U : Matrix (Fin n) (Fin k) K) (V : Matrix (Fin m) (Fin k) K)
    (D DM : Matrix (Fin k) (Fin k) K) : U * D * Vᴴ - U * DM * Vᴴ = U * (D - DM) * Vᴴ := by
  rw [Matrix.mul_sub, Matrix.sub_mul]

end SVD

-- non-vacuity / exact behaviour on concrete spectra
example : thresholdM (1/2) [3, 2, 1, 0] = 2 := by decide +kernel
example : computeM .both (1/10) [1, 2, 3, 1] [3, 2, 1] 1 true = some 3 := by decide +kernel
example : computeM .both (1/10) [1, 2, 3, 1] [3, 2, 1] 1 false = some 2 := by decide +kernel
example : computeM .fixed (1/10) [1] [3, 2, 1] 1 true = none := by decide +kernel

end RenoVerif.Trunc
