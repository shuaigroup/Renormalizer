/-
  C17 — Jordan–Wigner sign logic.
  * `simplify_word`: for EVERY word over {σz, σ+, σ−} of any length, the product of the 2×2
    matrices equals `(−1)^{n_permute}` times the product of the simplified word that
    `simplify_op` emits (all σz moved to the front and cancelled pairwise).
  The exhaustive tables over the list-matrix model (`jw_swap_table`, `simplifyOK_upto5`) are in
  Props/C17Tables.lean.
-/
import RenoVerif.Model.JW
import Mathlib.Data.Matrix.Basic
import Mathlib.Data.Matrix.Mul
import Mathlib.LinearAlgebra.Matrix.Notation
import Mathlib.Algebra.BigOperators.Group.List.Basic
import Mathlib.Tactic.Ring

namespace RenoVerif.JW

abbrev M2 := Matrix (Fin 2) (Fin 2) ℤ

def Sym.m : Sym → M2
  | .Z => !![1, 0; 0, -1]
  | .P => !![0, 1; 0, 0]
  | .M => !![0, 0; 1, 0]

def prodM (w : List Sym) : M2 := (w.map Sym.m).prod

def nzc (w : List Sym) : Nat := (w.filter (· == .Z)).length

/-- number of (non-σz, later σz) pairs -/
def pairs : List Sym → Nat
  | [] => 0
  | .Z :: rest => pairs rest
  | _ :: rest => pairs rest + nzc rest

def nonZ (w : List Sym) : List Sym := w.filter (· != .Z)

theorem prodM_cons (s : Sym) (w : List Sym) : prodM (s :: w) = Sym.m s * prodM w := List.prod_cons

theorem nzc_cons_Z (w : List Sym) : nzc (.Z :: w) = nzc w + 1 := rfl
theorem nonZ_cons_Z (w : List Sym) : nonZ (.Z :: w) = nonZ w := rfl

theorem nzc_cons_of_ne {s : Sym} (hs : s ≠ .Z) (w : List Sym) : nzc (s :: w) = nzc w :=
  congrArg List.length (List.filter_cons_of_neg (mt eq_of_beq hs))
theorem nonZ_cons_of_ne {s : Sym} (hs : s ≠ .Z) (w : List Sym) : nonZ (s :: w) = s :: nonZ w :=
  List.filter_cons_of_pos (bne_iff_ne.mpr hs)
theorem pairs_cons_of_ne {s : Sym} (hs : s ≠ .Z) (w : List Sym) : pairs (s :: w) = pairs w + nzc w :=
  pairs.eq_3 s w hs

/-- the code's left-to-right counting loop computes exactly these two numbers -/
theorem go_eq : ∀ (w : List Sym) (nz nn np : Nat),
    simplifyWord.go w nz nn np = (nz + nzc w, np + nn * nzc w + pairs w) := by
  intro w nz nn np
  fun_induction simplifyWord.go w nz nn np with
  | case1 => rfl
  | case2 rest nz nn np ih =>
    rw [ih, nzc_cons_Z, pairs]
    congr 1 <;> ring
  | case3 s rest nz nn np hs ih =>
    rw [ih, nzc_cons_of_ne hs, pairs_cons_of_ne hs]
    congr 1; ring

theorem simplifyWord_eq (w : List Sym) :
    simplifyWord w = (pairs w % 2 == 1, if nzc w % 2 == 1 then .Z :: nonZ w else nonZ w) := by
  simp only [simplifyWord, go_eq, Nat.zero_add, Nat.zero_mul, nonZ]

theorem ZZ : Sym.m .Z * Sym.m .Z = 1 := by decide +kernel

theorem Z_anti {s : Sym} (hs : s ≠ .Z) : Sym.m .Z * Sym.m s = -(Sym.m s * Sym.m .Z) := by
  cases s with
  | Z => exact absurd rfl hs
  | P => decide +kernel
  | M => decide +kernel

theorem anti_pow {R : Type*} [Ring R] {x z : R} (h : z * x = -(x * z)) (k : Nat) :
    x * z ^ k = ((-1 : ℤ) ^ k) • (z ^ k * x) := by
  have hx : SemiconjBy x z (-z) := by rw [SemiconjBy, neg_mul, h, neg_neg]
  rw [(hx.pow_right k).eq, ← neg_one_zsmul z, smul_pow, smul_mul_assoc]

/-- normal form: `Π w = (−1)^{pairs w} · σz^{#σz} · Π (non-σz symbols in order)` -/
theorem prodM_normal : ∀ w : List Sym,
    prodM w = ((-1 : ℤ) ^ pairs w) • ((Sym.m .Z) ^ nzc w * prodM (nonZ w)) := by
  intro w
  fun_induction pairs w with
  | case1 => simp [prodM, nzc, nonZ]
  | case2 rest ih =>
    rw [prodM_cons, ih, nzc_cons_Z, nonZ_cons_Z, mul_smul_comm, ← mul_assoc, ← pow_succ']
  | case3 s rest hs ih =>
    -- `s` passes `σz ^ nzc rest` with the sign `(−1) ^ nzc rest`: one factor −1 for each new pair
    rw [prodM_cons, ih, nzc_cons_of_ne hs, nonZ_cons_of_ne hs, prodM_cons, mul_smul_comm, ← mul_assoc,
      anti_pow (Z_anti hs), smul_mul_assoc, smul_smul, mul_assoc, pow_add]

theorem signOf_odd (n : Nat) : signOf (n % 2 == 1) = (-1) ^ n := by
  rw [neg_one_pow_eq_pow_mod_two]
  rcases Nat.mod_two_eq_zero_or_one n with h | h <;> rw [h] <;> rfl

theorem prodM_cancelZ (n : Nat) (w : List Sym) :
    prodM (if n % 2 == 1 then .Z :: w else w) = Sym.m .Z ^ n * prodM w := by
  rw [pow_eq_pow_mod n ((pow_two _).trans ZZ)]
  rcases Nat.mod_two_eq_zero_or_one n with h | h <;> rw [h]
  · rw [pow_zero, one_mul]; rfl
  · rw [pow_one, ← prodM_cons]; rfl

/-- **`simplify_op` is exact on every word of every length** -/
theorem simplify_word (w : List Sym) :
    prodM w = signOf (simplifyWord w).1 • prodM (simplifyWord w).2 := by
  rw [simplifyWord_eq, signOf_odd, prodM_cancelZ]
  exact prodM_normal w

-- non-vacuity
example : simplifyWord [.P, .Z, .M, .Z, .Z] = (true, [.Z, .P, .M]) := by decide +kernel

end RenoVerif.JW
