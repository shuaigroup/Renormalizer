/-
  C09 / C12 — the one-site projector-splitting scheme conserves norm and energy at ANY bond
  dimension (chain or tree).

  During a one-site sweep the state is always `ψ = P c`: `c` the centre tensor (site tensor in a
  forward step, bond matrix in a backward step), `P` the isometry assembled from the canonical
  environment (`Pᴴ P = 1`, C04 `c04_block_isometry` / C11 `amp_bond_gauge`).  A local step replaces
  `c` by `U c` where `U` is a function of the effective operator `K = Pᴴ H P` (`exp(∓iτK)` or any
  polynomial / Krylov approximation that is unitary): `Uᴴ U = 1`, `U K = K U`.  Moving the centre
  (QR, absorbing the bond matrix into the neighbour) re-expresses the same `ψ` with another
  isometry.  Theorems:
  * `local_step_norm`, `local_step_energy`: one local step conserves `ψᴴψ` and `ψᴴHψ`
    (no hermiticity of `H`, no assumption on the bond dimension `m`);
  * `isometry_comp`: the embedding after a QR move is again an isometry;
  * `sweep_conserves`: any sequence of local steps and re-expressions — in particular the event
    sequences of `Model/TreeSweep` for every tree — conserves both.
-/
import Mathlib.Data.Matrix.Mul
import Mathlib.LinearAlgebra.Matrix.ConjTranspose
import Mathlib.LinearAlgebra.Matrix.Notation
import Mathlib.Algebra.Star.Basic
import Mathlib.Algebra.Ring.Int.Defs

namespace RenoVerif.Conserve
open Matrix

variable {n m k : Type} [Fintype n] [Fintype m] [DecidableEq m]
variable {K : Type} [CommRing K] [StarRing K]

/-- norm² of (a block of) states: the Gram matrix `ψᴴ ψ` -/
def gram (ψ : Matrix n k K) : Matrix k k K := ψᴴ * ψ
/-- energy form `ψᴴ H ψ` -/
def energy (H : Matrix n n K) (ψ : Matrix n k K) : Matrix k k K := ψᴴ * H * ψ

theorem gram_isometry_mul (P : Matrix n m K) (X : Matrix m k K) (hP : Pᴴ * P = 1) :
    gram (P * X) = gram X := by
  unfold gram
  rw [conjTranspose_mul, Matrix.mul_assoc, ← Matrix.mul_assoc Pᴴ, hP, Matrix.one_mul]

omit [DecidableEq m] in
theorem energy_mul (H : Matrix n n K) (P : Matrix n m K) (X : Matrix m k K) :
    energy H (P * X) = energy (Pᴴ * H * P) X := by
  unfold energy
  rw [conjTranspose_mul]
  simp only [Matrix.mul_assoc]

theorem local_step_norm (P : Matrix n m K) (U : Matrix m m K) (c : Matrix m k K)
    (hP : Pᴴ * P = 1) (hU : Uᴴ * U = 1) : gram (P * (U * c)) = gram (P * c) := by
  rw [gram_isometry_mul P (U * c) hP, gram_isometry_mul U c hU, gram_isometry_mul P c hP]

theorem local_step_energy (H : Matrix n n K) (P : Matrix n m K) (U : Matrix m m K) (c : Matrix m k K)
    (hU : Uᴴ * U = 1) (hc : U * (Pᴴ * H * P) = (Pᴴ * H * P) * U) :
    energy H (P * (U * c)) = energy H (P * c) := by
  -- a unitary that commutes with the effective operator leaves it fixed under conjugation
  have hK : Uᴴ * (Pᴴ * H * P) * U = Pᴴ * H * P := by
    rw [Matrix.mul_assoc, ← hc, ← Matrix.mul_assoc, hU, Matrix.one_mul]
  rw [energy_mul H P (U * c), energy_mul (Pᴴ * H * P) U c, hK, energy_mul H P c]

/-- after a QR move `c = Q r` the new embedding `P Q` is again an isometry -/
theorem isometry_comp {l : Type} [Fintype l] [DecidableEq l] (P : Matrix n m K) (Q : Matrix m l K)
    (hP : Pᴴ * P = 1) (hQ : Qᴴ * Q = 1) : (P * Q)ᴴ * (P * Q) = 1 :=
  (gram_isometry_mul P Q hP).trans hQ

omit [DecidableEq m] in
/-- the effective operator of the bond step is the compression of the site step's -/
theorem bond_operator {l : Type} [Fintype l] (H : Matrix n n K) (P : Matrix n m K) (Q : Matrix m l K) :
    (P * Q)ᴴ * H * (P * Q) = Qᴴ * (Pᴴ * H * P) * Q :=
  energy_mul H P Q

/-- one event of a sweep, as a relation between the represented states: a local step in some
    isometric embedding of some dimension, with a unitary that commutes with the effective operator -/
inductive Step (H : Matrix n n K) : Matrix n k K → Matrix n k K → Prop
  | local {d : ℕ} (P : Matrix n (Fin d) K) (U : Matrix (Fin d) (Fin d) K) (c : Matrix (Fin d) k K)
      (hP : Pᴴ * P = 1) (hU : Uᴴ * U = 1) (hc : U * (Pᴴ * H * P) = (Pᴴ * H * P) * U) :
      Step H (P * c) (P * (U * c))

/-- a sweep: any finite sequence of local steps (re-expressing `ψ` in another gauge does not
    change `ψ`, so consecutive steps simply share the intermediate state) -/
inductive Sweep (H : Matrix n n K) : Matrix n k K → Matrix n k K → Prop
  | nil (ψ) : Sweep H ψ ψ
  | cons {ψ ψ' ψ''} : Step H ψ ψ' → Sweep H ψ' ψ'' → Sweep H ψ ψ''

/-- **one-site projector splitting conserves norm and energy**, for every sequence of local steps,
    every bond dimension, every Hamiltonian -/
theorem sweep_conserves (H : Matrix n n K) {ψ ψ' : Matrix n k K} (h : Sweep H ψ ψ') :
    gram ψ' = gram ψ ∧ energy H ψ' = energy H ψ := by
  induction h with
  | nil ψ => exact ⟨rfl, rfl⟩
  | cons hs _ ih =>
    obtain ⟨P, U, c, hP, hU, hc⟩ := hs
    exact ⟨ih.1.trans (local_step_norm P U c hP hU), ih.2.trans (local_step_energy H P U c hU hc)⟩

omit [StarRing K] in
/-- a polynomial in the effective operator commutes with it (what Krylov / Taylor propagators are) -/
theorem poly_commutes (Kf : Matrix m m K) (p : List K) :
    (p.zipIdx.map fun ci => ci.1 • Kf ^ ci.2).sum * Kf = Kf * (p.zipIdx.map fun ci => ci.1 • Kf ^ ci.2).sum := by
  refine (Commute.list_sum_left Kf _ fun A hA => ?_).eq
  obtain ⟨ci, _, rfl⟩ := List.mem_map.1 hA
  exact (Commute.pow_self Kf ci.2).smul_left ci.1

-- non-vacuity: a 2-dimensional embedding into 3 dimensions over ℤ, U = a signed permutation that
-- commutes with the (diagonal, degenerate) effective operator
private def Pex : Matrix (Fin 3) (Fin 2) ℤ := !![1, 0; 0, 1; 0, 0]
private def Hex : Matrix (Fin 3) (Fin 3) ℤ := !![2, 0, 5; 0, 2, 7; 5, 7, 1]
private def Uex : Matrix (Fin 2) (Fin 2) ℤ := !![0, -1; 1, 0]
private def cex : Matrix (Fin 2) (Fin 1) ℤ := !![3; 4]
example : Step (k := Fin 1) Hex (Pex * cex) (Pex * (Uex * cex)) :=
  Step.local Pex Uex cex (by decide +kernel) (by decide +kernel) (by decide +kernel)
example : Pex * (Uex * cex) ≠ Pex * cex := by decide +kernel

end RenoVerif.Conserve
