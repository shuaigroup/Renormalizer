/-
  C19 — property theorems (generic part).  The per-method obligations
  (`order_…`, `nodes_…`, `ti_…`) live in `RenoVerif/Gen/RKProps.lean`, which the
  translator regenerates from /repo/renormalizer/utils/rk.py on every run.
-/
import RenoVerif.Model.RKTree

namespace RenoVerif.RK

/-- The enumeration of rooted forests is complete, for every size. -/
theorem forests_complete : ∀ f : F, f ∈ F.forests f.size := by
  intro f
  induction f with
  | nil =>
    rw [F.size, F.forests]
    exact List.mem_singleton_self _
  | br c s ihc ihs =>
    rw [F.size, Nat.add_assoc, Nat.add_comm 1, F.forests]
    simp only [List.mem_flatMap, List.mem_map]
    refine ⟨⟨c.size, List.mem_range.mpr (by omega)⟩, List.mem_attach _ _, c, ihc, s, ?_, rfl⟩
    rw [Nat.add_sub_cancel_left]
    exact ihs

/-- `orderOK` is a sound and complete decision of "all order conditions up to p":
    it quantifies over EVERY rooted tree with at most `p` nodes. -/
theorem orderOK_sound (a : Mat) (b : Vec) (p : Nat) (h : orderOK a b p = true) :
    ∀ c : F, c.size < p → Phi a b c * (((1 + c.size) * c.G : Nat) : Rat) = 1 := by
  intro c hc
  unfold orderOK at h
  rw [List.all_eq_true] at h
  have h1 := h c.size (List.mem_range.mpr hc)
  rw [List.all_eq_true] at h1
  have h2 := h1 c (forests_complete c)
  unfold condOK at h2
  exact eq_of_beq h2

/-- if a violation is reported, it is a genuine violated tree condition -/
theorem firstViolation_sound (a : Mat) (b : Vec) (p : Nat) (c : F)
    (h : firstViolation a b p = some c) : condOK a b c = false := by
  unfold firstViolation at h
  have := List.find?_some h
  simpa using this

/-- no violation reported iff all conditions hold -/
theorem firstViolation_none (a : Mat) (b : Vec) (p : Nat) :
    firstViolation a b p = none ↔ orderOK a b p = true := by
  unfold firstViolation orderOK
  -- both run over the one enumeration `(List.range p).flatMap F.forests`
  rw [← List.all_flatMap, List.find?_eq_none, List.all_eq_true]
  simp only [Bool.not_eq_true', Bool.not_eq_false]

/-- Taylor propagator coefficients are exactly 1/k! -/
theorem taylorCoeff_spec (order k : Nat) (hk : k ≤ order) :
    (taylorCoeff order).getD k 0 = 1 / ((fact k : Nat) : Rat) := by
  unfold taylorCoeff
  rw [List.getD_eq_getElem?_getD, List.getElem?_map, List.getElem?_range (Nat.lt_succ_of_le hk), Option.map_some,
    Option.getD_some]

/-- γ of the tall tree with k+1 nodes is (k+1)! -/
theorem tall_size (k : Nat) : (tall k).size = k := by
  induction k with
  | zero => rfl
  | succ k ih => rw [tall, F.size, F.size, ih, Nat.add_zero, Nat.add_comm]

theorem tall_gamma (k : Nat) : (1 + (tall k).size) * (tall k).G = fact (k+1) := by
  induction k with
  | zero => rfl
  | succ k ih =>
    rw [fact, tall, F.size, F.G, F.G, F.size, Nat.mul_one, Nat.add_zero, ih, tall_size, Nat.add_comm 1, Nat.add_comm 1]

-- non-vacuity: classical RK4 satisfies order 4, not order 5; a wrong b entry breaks a named tree
private def rk4a : Mat := [[0,0,0,0],[1/2,0,0,0],[0,1/2,0,0],[0,0,1,0]]
private def rk4b : Vec := [1/6,1/3,1/3,1/6]
example : orderOK rk4a rk4b 4 = true := by decide +kernel
example : orderOK rk4a rk4b 5 = false := by decide +kernel
example : firstViolation rk4a [1/6,1/3,1/3,1/5] 4 = some .nil := by decide +kernel
example : firstViolation [[0,0,0,0],[1/2,0,0,0],[0,1/2,0,0],[0,0,1/2,0]] rk4b 4
    = some (.br .nil .nil) := by decide +kernel
example : tiTaylorOK rk4a rk4b 4 = true := by decide +kernel

end RenoVerif.RK
