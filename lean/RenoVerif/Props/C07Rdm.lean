/-
  C07 (reduced density matrices) — the one-site reduced density matrix through environments, for every chain length,
  bond and physical dimensions, every gauge: summing ψ ψ* over the configurations of all other sites equals
  Tr(G_L · M_s · G_R · M_{s′}ᴴ) with the Gram matrices (identity-operator environments) of the left and right parts;
  `gramL` is the transfer recursion `dotFrom` of the conjugated chain with the chain (what `Environ` computes); in the
  mixed-canonical gauge it reduces to Tr(M_s M_{s′}ᴴ); the result is Hermitian.  (`calc_1site_rdm` of the pinned tree
  returned the complex conjugate of this for complex states: defect D24.)  Tie: dense oracle of search_c07 (RDM values);
  the two-site / electronic RDMs and the entropies are decided by the dense oracle only.
-/
import RenoVerif.Lemmas.ChainDot
import Mathlib.LinearAlgebra.Matrix.Trace

namespace RenoVerif.Chain
open Matrix

variable {R : Type} [CommRing R] [StarRing R]

/-- Gram matrix of the left part (the left environment of the identity operator) -/
def gramL {ds : List ℕ} {l m : ℕ} (a : Chain R ds l m) : Matrix (Fin m) (Fin m) R :=
  ∑ c : Cfg ds, (amp a c)ᴴ * amp a c

/-- Gram matrix of the right part (the right environment of the identity operator) -/
def gramR {ds : List ℕ} {k r : ℕ} (b : Chain R ds k r) : Matrix (Fin k) (Fin k) R :=
  ∑ c : Cfg ds, amp b c * (amp b c)ᴴ

/-- scalar (1×1) amplitude of the configuration (cL, s, cR) of the chain `a ++ [M] ++ b` -/
def amp3 {ds1 ds2 : List ℕ} {d m k : ℕ} (a : Chain R ds1 1 m) (M : Site R d m k) (b : Chain R ds2 k 1)
    (cL : Cfg ds1) (s : Fin d) (cR : Cfg ds2) : R := (amp a cL * M s * amp b cR) 0 0

theorem one_by_one_mul_star (X Y : Matrix (Fin 1) (Fin 1) R) : X 0 0 * star (Y 0 0) = trace (X * Yᴴ) := by
  rw [trace_fin_one, Matrix.mul_apply, Fin.sum_univ_one, conjTranspose_apply]

/-- **one-site reduced density matrix through environments** (any gauge): summing `ψ(…s…) ψ(…s'…)*` over all
    configurations of the other sites gives `Tr(G_L · M_s · G_R · M_{s'}ᴴ)` with the Gram matrices of the two parts -/
theorem rdm1_env {ds1 ds2 : List ℕ} {d m k : ℕ} (a : Chain R ds1 1 m) (M : Site R d m k) (b : Chain R ds2 k 1)
    (s s' : Fin d) :
    ∑ cL : Cfg ds1, ∑ cR : Cfg ds2, amp3 a M b cL s cR * star (amp3 a M b cL s' cR)
      = trace (gramL a * M s * gramR b * (M s')ᴴ) := by
  unfold amp3 gramL gramR
  rw [Matrix.sum_mul, Matrix.sum_mul, Matrix.sum_mul, trace_sum]
  refine Finset.sum_congr rfl fun cL _ => ?_
  rw [Matrix.mul_sum, Matrix.sum_mul, trace_sum]
  refine Finset.sum_congr rfl fun cR _ => ?_
  -- with A, B the amplitudes of the two parts:
  -- tr((A M B)(A M' B)ᴴ) = tr((A M B Bᴴ M'ᴴ) Aᴴ) = tr(Aᴴ (A M B Bᴴ M'ᴴ))
  rw [one_by_one_mul_star, conjTranspose_mul, conjTranspose_mul, ← Matrix.mul_assoc, ← Matrix.mul_assoc,
    trace_mul_comm]
  simp only [Matrix.mul_assoc]

/-- in the mixed-canonical gauge both environments are identities: `ρ(s,s') = Tr(M_s M_{s'}ᴴ)` -/
theorem rdm1_canonical {ds1 ds2 : List ℕ} {d m k : ℕ} (a : Chain R ds1 1 m) (M : Site R d m k) (b : Chain R ds2 k 1)
    (ha : gramL a = 1) (hb : gramR b = 1) (s s' : Fin d) :
    ∑ cL : Cfg ds1, ∑ cR : Cfg ds2, amp3 a M b cL s cR * star (amp3 a M b cL s' cR) = trace (M s * (M s')ᴴ) := by
  rw [rdm1_env, ha, hb, Matrix.one_mul, Matrix.mul_one]

/-- a left-canonical left part has the identity as environment (C04: `gram_of_allLeftIso`) -/
theorem gramL_of_allLeftIso {ds : List ℕ} {l m : ℕ} (a : Chain R ds l m) (h : AllLeftIso a) : gramL a = 1 :=
  gram_of_allLeftIso a h

/-- the left environment is what the library's transfer recursion (`Environ` with the identity operator, i.e. `dot` of the
    conjugated chain with the chain) computes -/
theorem gramL_eq_dotFrom {ds : List ℕ} {l m : ℕ} (a : Chain R ds l m) :
    gramL a = dotFrom (1 : Matrix (Fin l) (Fin l) R) (mapC (starRingEnd R) a) a := by
  rw [dotFrom_eq]
  unfold gramL
  refine Finset.sum_congr rfl fun c _ => ?_
  rw [amp_mapC, Matrix.mul_one]
  rfl

/-- the reduced density matrix is Hermitian -/
theorem rdm1_hermitian {ds1 ds2 : List ℕ} {d m k : ℕ} (a : Chain R ds1 1 m) (M : Site R d m k) (b : Chain R ds2 k 1)
    (s s' : Fin d) :
    star (∑ cL : Cfg ds1, ∑ cR : Cfg ds2, amp3 a M b cL s cR * star (amp3 a M b cL s' cR))
      = ∑ cL : Cfg ds1, ∑ cR : Cfg ds2, amp3 a M b cL s' cR * star (amp3 a M b cL s cR) := by
  simp only [star_sum, star_mul, star_star]

/-- non-vacuity: an empty left part has the identity as environment -/
example (l : ℕ) : gramL (R := R) (Chain.nil l) = 1 :=
  gramL_of_allLeftIso (Chain.nil l) trivial

/-- **trace of the one-site reduced density matrix = ⟨ψ|ψ⟩** (any gauge): the diagonal of the environment formula
    sums to the squared norm of the dense state -/
theorem rdm1_trace {ds1 ds2 : List ℕ} {d m k : ℕ} (a : Chain R ds1 1 m) (M : Site R d m k) (b : Chain R ds2 k 1) :
    ∑ s : Fin d, trace (gramL a * M s * gramR b * (M s)ᴴ)
      = ∑ s : Fin d, ∑ cL : Cfg ds1, ∑ cR : Cfg ds2, amp3 a M b cL s cR * star (amp3 a M b cL s cR) :=
  Finset.sum_congr rfl fun s _ => (rdm1_env a M b s s).symm

/-- in the mixed-canonical gauge the trace is the squared Frobenius norm of the centre tensor -/
theorem rdm1_trace_canonical {ds1 ds2 : List ℕ} {d m k : ℕ} (a : Chain R ds1 1 m) (M : Site R d m k) (b : Chain R ds2 k 1)
    (hL : gramL a = 1) (hR : gramR b = 1) :
    ∑ s : Fin d, ∑ cL : Cfg ds1, ∑ cR : Cfg ds2, amp3 a M b cL s cR * star (amp3 a M b cL s cR)
      = ∑ s : Fin d, trace (M s * (M s)ᴴ) :=
  Finset.sum_congr rfl fun s _ => rdm1_canonical a M b hL hR s s

end RenoVerif.Chain
