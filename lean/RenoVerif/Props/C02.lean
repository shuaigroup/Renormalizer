/-
  C02 — TTNO certificates.  `checkCert_sound`: if the executable checker accepts the
  implementation's symbolic TTNO (any rooted tree, any number of basis sets per node, dummy nodes
  anywhere, any decomposition algorithm) against the operator table, then for EVERY interpretation
  `φ` of rows (one local operator key per node, post-order) in any module the root operator's
  expansion has the value of the table, `Σ_k c_k • φ(term_k)`.  With `φ(row) = ⊗_node opmat(node,key)`
  — which does not depend on the order in which the nodes are listed — two trees over the same
  degrees of freedom therefore denote the same operator as the chain (C01).
  The contraction semantics of a tree (analogue of `automaton_eq_expand`) is proved in
  Props/C02Auto.lean (`autoTree_eq_expand`, `accepted_tree_contracts`).
-/
import RenoVerif.Model.SymTree
import RenoVerif.Lemmas.FormalSum
import Mathlib.LinearAlgebra.BilinearMap

namespace RenoVerif.SymTree
open RenoVerif.FS

variable {R M : Type} [CommRing R] [AddCommGroup M] [Module R M]

theorem checkCert_sound [DecidableEq R] (table : FSum Row R) (nodes : List (Node R))
    (h : checkCert table nodes = true) :
    ∃ w, (expandTree nodes).getLast? = some [w] ∧ ∀ φ : Row → M, evalFS φ w = evalFS φ table := by
  unfold checkCert at h
  rw [Bool.and_eq_true] at h
  split at h
  next w hw => exact ⟨w, hw, fun φ => eqv_sound w table h.2 φ⟩
  next => cases h.2

/-- `evalFS_fsMul` with the pairing asked only on the rows of the left factor: interpretations that go by position
    (`rowVal`) know it only for rows of the right length -/
theorem evalFS_fsMul_of {M1 M2 : Type} [AddCommGroup M1] [Module R M1] [AddCommGroup M2] [Module R M2]
    {φ1 : Row → M1} {φ2 : Row → M2} {φ : Row → M} (B : M1 →ₗ[R] M2 →ₗ[R] M) (a b : FSum Row R)
    (hφ : ∀ p ∈ a, ∀ r', φ (p.1 ++ r') = B (φ1 p.1) (φ2 r')) :
    evalFS φ (fsMul a b) = B (evalFS φ1 a) (evalFS φ2 b) := by
  induction a with
  | nil => exact (B.map_zero₂ (evalFS φ2 b)).symm
  | cons p a ih =>
    have hcons : fsMul (p :: a) b = (b.map fun q => (p.1 ++ q.1, p.2 * q.2)) ++ fsMul a b := rfl
    rw [hcons, evalFS_append, ih fun q hq => hφ q (List.mem_cons_of_mem _ hq), evalFS_cons, B.map_add,
      LinearMap.add_apply, B.map_smul, LinearMap.smul_apply,
      evalFS_map_linear (p.1 ++ ·) p.2 (B (φ1 p.1)) fun q _ => hφ p List.mem_cons_self q.1]

/-- the product of formal sums denotes the product of values, for any bilinear pairing of the
    interpretations (`φ (r ++ r') = B (φ₁ r) (φ₂ r')`): the step that combines children -/
theorem evalFS_fsMul {M1 M2 : Type} [AddCommGroup M1] [Module R M1] [AddCommGroup M2] [Module R M2]
    (φ1 : Row → M1) (φ2 : Row → M2) (φ : Row → M) (B : M1 →ₗ[R] M2 →ₗ[R] M)
    (hφ : ∀ r r', φ (r ++ r') = B (φ1 r) (φ2 r')) (a b : FSum Row R) :
    evalFS φ (fsMul a b) = B (evalFS φ1 a) (evalFS φ2 b) :=
  evalFS_fsMul_of B a b fun p _ => hφ p.1

theorem Den.fsMul {M1 M2 : Type} [AddCommGroup M1] [Module R M1] [AddCommGroup M2] [Module R M2]
    {φ1 : Row → M1} {φ2 : Row → M2} {φ : Row → M} (B : M1 →ₗ[R] M2 →ₗ[R] M) {n m : Nat}
    (hφ : ∀ r r', r.length = n → φ (r ++ r') = B (φ1 r) (φ2 r')) {e1 e2 : FSum Row R} {a1 : M1} {a2 : M2}
    (h1 : Den φ1 n e1 a1) (h2 : Den φ2 m e2 a2) : Den φ (n + m) (fsMul e1 e2) (B a1 a2) := by
  refine ⟨fun p hp => ?_, ?_⟩
  · obtain ⟨x, hx, hp⟩ := List.mem_flatMap.1 hp
    obtain ⟨y, hy, rfl⟩ := List.mem_map.1 hp
    rw [List.length_append, h1.1 x hx, h2.1 y hy]
  · rw [evalFS_fsMul_of B e1 e2 fun p hp r' => hφ p.1 r' (h1.1 p hp), h1.2, h2.2]

-- non-vacuity: a three-node tree (two leaves, one root with a dummy key 0) for H = 2·A⊗B + 3·A⊗C
private def exNodes : List (Node Int) :=
  [⟨[], [[⟨[], 1, 1⟩]]⟩,                                   -- leaf 0: operator A
   ⟨[], [[⟨[], 2, 2⟩, ⟨[], 3, 3⟩]]⟩,                       -- leaf 1: 2B + 3C
   ⟨[0, 1], [[⟨[0, 0], 0, 1⟩]]⟩]                           -- root (dummy): product of the children
example : checkCert [([1, 2, 0], 2), ([1, 3, 0], 3)] exNodes = true := by decide +kernel
example : checkCert [([1, 2, 0], 2), ([1, 3, 0], 4)] exNodes = false := by decide +kernel

end RenoVerif.SymTree
