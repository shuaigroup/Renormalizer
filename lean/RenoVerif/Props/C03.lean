/-
  C03 — state and operator arithmetic agrees with dense linear algebra, in any gauge.
  Every statement is about `amp` (the dense amplitude), for every chain length, every bond and
  physical dimension, every commutative ring of scalars; none mentions quantum-number labels, the
  centre or the sweep direction, and `amp` is invariant under every re-gauging (`amp_steps`), so
  the statements hold whatever the gauge history of the operands.
-/
import RenoVerif.Lemmas.ChainDot
import Mathlib.Tactic.Ring

namespace RenoVerif.Chain
open Matrix

variable {R : Type} [CommRing R]

theorem c03_add {d : ℕ} {ds : List ℕ} (a b : Chain R (d :: ds) 1 1) (c : Cfg (d :: ds)) :
    amp (addClosed a b) c = amp a c + amp b c := amp_addClosed a b c

/-- difference (`a - b` is `a.add(b.scale(-1))`, the scaled site being arbitrary) -/
theorem c03_sub {d : ℕ} {ds : List ℕ} (a b : Chain R (d :: ds) 1 1) (k : ℕ) (hk : k < (d :: ds).length)
    (c : Cfg (d :: ds)) : amp (addClosed a (scaleAt k (-1) b)) c = amp a c - amp b c := by
  rw [amp_addClosed, amp_scaleAt k (-1) b c hk, neg_one_smul, sub_eq_add_neg]

/-- scalar multiple, whichever site carries the centre -/
theorem c03_scale {ds : List ℕ} {l r : ℕ} (k : ℕ) (x : R) (a : Chain R ds l r) (c : Cfg ds)
    (hk : k < ds.length) : amp (scaleAt k x a) c = x • amp a c := amp_scaleAt k x a c hk

/-- complex conjugate -/
theorem c03_conj (f : R →+* R) {ds : List ℕ} {l r : ℕ} (a : Chain R ds l r) (c : Cfg ds) :
    amp (mapC f a) c = (amp a c).map f := amp_mapC f a c

/-- bilinear product of two chains = sum over configurations of products of amplitudes;
    inner product / norm / distance are `dot (conj a) b` etc. -/
theorem c03_dot {ds : List ℕ} (a b : Chain R ds 1 1) :
    dotFrom (1 : Matrix (Fin 1) (Fin 1) R) a b 0 0 = ∑ c : Cfg ds, amp a c 0 0 * amp b c 0 0 := dot_closed a b

theorem c03_inner (f : R →+* R) {ds : List ℕ} (a b : Chain R ds 1 1) :
    dotFrom (1 : Matrix (Fin 1) (Fin 1) R) (mapC f a) b 0 0 = ∑ c : Cfg ds, f (amp a c 0 0) * amp b c 0 0 := by
  simp only [dot_closed, amp_mapC, Matrix.map_apply]

/-- operator on state (and, with a flattened pair index, operator on operator / density operator) -/
theorem c03_apply {ds : List ℕ} {a b l r : ℕ} (w : OpChain R ds a b) (x : Chain R ds l r) (σ : Cfg ds) :
    amp (applyC w x) σ = ∑ τ : Cfg ds, kr (ampOp w σ τ) (amp x τ) := amp_applyC w x σ

/-- `distance`: the combination `⟨a|a⟩ + ⟨b|b⟩ − ⟨a|b⟩ − conj⟨a|b⟩` the implementation computes from
    three chain contractions is the squared Euclidean distance of the dense vectors (`f` = complex
    conjugation: any involutive ring homomorphism) -/
theorem c03_distance (f : R →+* R) (hf : ∀ x, f (f x) = x) {ds : List ℕ} (a b : Chain R ds 1 1) :
    dotFrom (1 : Matrix (Fin 1) (Fin 1) R) (mapC f a) a 0 0
      + dotFrom (1 : Matrix (Fin 1) (Fin 1) R) (mapC f b) b 0 0
      - dotFrom (1 : Matrix (Fin 1) (Fin 1) R) (mapC f a) b 0 0
      - f (dotFrom (1 : Matrix (Fin 1) (Fin 1) R) (mapC f a) b 0 0)
    = ∑ c : Cfg ds, f (amp a c 0 0 - amp b c 0 0) * (amp a c 0 0 - amp b c 0 0) := by
  rw [c03_inner, c03_inner, c03_inner, map_sum, ← Finset.sum_add_distrib, ← Finset.sum_sub_distrib,
    ← Finset.sum_sub_distrib]
  refine Finset.sum_congr rfl fun c _ => ?_
  rw [f.map_mul, hf, f.map_sub]
  ring

/-- Hermitian symmetry of the inner product: `⟨b|a⟩ = conj ⟨a|b⟩` (what `distance` relies on when it
    subtracts `l1dotl2.conjugate()` instead of contracting a fourth time) -/
theorem c03_inner_symm (f : R →+* R) (hf : ∀ x, f (f x) = x) {ds : List ℕ} (a b : Chain R ds 1 1) :
    dotFrom (1 : Matrix (Fin 1) (Fin 1) R) (mapC f b) a 0 0
      = f (dotFrom (1 : Matrix (Fin 1) (Fin 1) R) (mapC f a) b 0 0) := by
  rw [c03_inner, c03_inner, map_sum]
  refine Finset.sum_congr rfl fun c _ => ?_
  rw [f.map_mul, hf, mul_comm]

/-- squared norm: `⟨a|a⟩ = Σ_c conj(a_c)·a_c` -/
theorem c03_norm_sq (f : R →+* R) {ds : List ℕ} (a : Chain R ds 1 1) :
    dotFrom (1 : Matrix (Fin 1) (Fin 1) R) (mapC f a) a 0 0 = ∑ c : Cfg ds, f (amp a c 0 0) * amp a c 0 0 :=
  c03_inner f a a

/-- arithmetic followed by any canonicalisation / lossless compression is still correct -/
theorem c03_add_then_regauge {d : ℕ} {ds : List ℕ} (a b : Chain R (d :: ds) 1 1) (x : Chain R (d :: ds) 1 1)
    (h : Steps (addClosed a b) x) (c : Cfg (d :: ds)) : amp x c = amp a c + amp b c := by
  rw [← amp_steps h c, amp_addClosed]

/-- operands may be re-gauged arbitrarily before the operation -/
theorem c03_add_gauge_invariant {d : ℕ} {ds : List ℕ} (a a' b b' : Chain R (d :: ds) 1 1)
    (ha : Steps a a') (hb : Steps b b') (c : Cfg (d :: ds)) :
    amp (addClosed a' b') c = amp (addClosed a b) c := by
  rw [amp_addClosed, amp_addClosed, amp_steps ha c, amp_steps hb c]

-- non-vacuity: two concrete 2-site integer chains
private def exA : Chain ℤ [2, 2] 1 1 :=
  .cons (fun s => !![(s.val : ℤ) + 1, 2]) (.cons (fun s => !![1; (s.val : ℤ)]) (.nil 1))
private def exB : Chain ℤ [2, 2] 1 1 :=
  .cons (fun s => !![(3 : ℤ) * s.val]) (.cons (fun _ => !![(5 : ℤ)]) (.nil 1))
private def exCfg : Cfg [2, 2] := ((1 : Fin 2), ((1 : Fin 2), ()))
example : amp (addClosed exA exB) exCfg 0 0 = 4 + 15 := by
  rw [c03_add]
  decide

end RenoVerif.Chain
