/-
  C08 — DMRG energies are variational.  Every energy the optimiser reports is an eigenvalue (a
  Rayleigh quotient) of an effective Hamiltonian `Heff = Pᴴ H P` with `P` the isometry assembled
  from the canonical environment blocks (isometry: C04 `c04_block_isometry`).  Theorem: if
  `H − λ·1` is positive semidefinite (λ a lower bound of the spectrum of H in the sector) then so is
  `Heff − λ·1`: no eigenvalue, hence no reported energy, lies below λ.  Convergence to equality at
  full bond dimension and the interlacing of higher roots are numerical (partial).
-/
import Mathlib.LinearAlgebra.Matrix.PosDef
import Mathlib.Data.Int.Star

namespace RenoVerif.Variational
open Matrix

variable {n m : Type} [Fintype n] [Fintype m] [DecidableEq n] [DecidableEq m]
variable {K : Type} [CommRing K] [PartialOrder K] [StarRing K]

/-- **compression never lowers the spectrum** -/
theorem compression_lower_bound (H : Matrix n n K) (P : Matrix n m K) (lam : K)
    (hP : Pᴴ * P = 1) (hH : (H - lam • (1 : Matrix n n K)).PosSemidef) :
    (Pᴴ * H * P - lam • (1 : Matrix m m K)).PosSemidef := by
  have h := hH.conjTranspose_mul_mul_same P
  rwa [Matrix.mul_sub, Matrix.sub_mul, Matrix.mul_smul, Matrix.smul_mul, Matrix.mul_one, hP] at h

/-- Rayleigh-quotient form: for every vector `x`, `xᴴ Heff x ≥ λ · xᴴx` -/
theorem rayleigh_lower_bound (H : Matrix n n K) (P : Matrix n m K) (lam : K)
    (hP : Pᴴ * P = 1) (hH : (H - lam • (1 : Matrix n n K)).PosSemidef) (x : m → K) :
    0 ≤ star x ⬝ᵥ ((Pᴴ * H * P - lam • (1 : Matrix m m K)) *ᵥ x) :=
  (compression_lower_bound H P lam hP hH).dotProduct_mulVec_nonneg x

/-- nesting: compressing again (a smaller bond dimension, a one-site update inside a two-site
    space, …) keeps the bound -/
theorem compression_nested {k : Type} [Fintype k] [DecidableEq k] (H : Matrix n n K) (P : Matrix n m K)
    (P2 : Matrix m k K) (lam : K) (hP : Pᴴ * P = 1) (hP2 : P2ᴴ * P2 = 1)
    (hH : (H - lam • (1 : Matrix n n K)).PosSemidef) :
    (P2ᴴ * (Pᴴ * H * P) * P2 - lam • (1 : Matrix k k K)).PosSemidef :=
  compression_lower_bound (Pᴴ * H * P) P2 lam hP2 (compression_lower_bound H P lam hP hH)

/-- targeting `ω`: `(H − ω)²` is positive semidefinite for Hermitian `H`, so its compressed
    minimum is ≥ 0 and is attained exactly by eigenvectors with eigenvalue ω -/
theorem omega_square_psd [StarOrderedRing K] (H : Matrix n n K) (hH : H.IsHermitian) (om : K) (hom : star om = om) :
    ((H - om • (1 : Matrix n n K)) * (H - om • (1 : Matrix n n K))).PosSemidef := by
  have hh : (H - om • (1 : Matrix n n K))ᴴ = H - om • (1 : Matrix n n K) := by
    rw [conjTranspose_sub, conjTranspose_smul, conjTranspose_one, hH.eq, hom]
  have := Matrix.posSemidef_conjTranspose_mul_self (H - om • (1 : Matrix n n K))
  rwa [hh] at this

/-- the states the optimiser returns are `ψ = P x` (environment isometry applied to a local
    eigenvector).  Several roots: the lifted states `P x`, `P y` have the overlap of the local vectors,
    so orthonormal local eigenvectors give orthonormal returned states -/
theorem lifted_inner (P : Matrix n m K) (hP : Pᴴ * P = 1) (x y : m → K) :
    star (P *ᵥ x) ⬝ᵥ (P *ᵥ y) = star x ⬝ᵥ y := by
  rw [star_mulVec, dotProduct_mulVec, vecMul_vecMul, hP, vecMul_one]

/-- … and the Hamiltonian matrix between lifted states is the effective one (state-averaged searches
    diagonalise exactly the restriction of `H` to the span of the returned states) -/
theorem lifted_matrix_element (H : Matrix n n K) (P : Matrix n m K) (x y : m → K) :
    star (P *ᵥ x) ⬝ᵥ (H *ᵥ (P *ᵥ y)) = star x ⬝ᵥ ((Pᴴ * H * P) *ᵥ y) := by
  rw [star_mulVec, dotProduct_mulVec, vecMul_vecMul, dotProduct_mulVec, vecMul_vecMul,
    ← dotProduct_mulVec, Matrix.mul_assoc]

/-- one root: the global energy form of `ψ = P x` equals the local one … -/
theorem lifted_rayleigh (H : Matrix n n K) (P : Matrix n m K) (x : m → K) :
    star (P *ᵥ x) ⬝ᵥ (H *ᵥ (P *ᵥ x)) = star x ⬝ᵥ ((Pᴴ * H * P) *ᵥ x) :=
  lifted_matrix_element H P x x

/-- … and its norm equals the norm of the local vector -/
theorem lifted_norm (P : Matrix n m K) (hP : Pᴴ * P = 1) (x : m → K) :
    star (P *ᵥ x) ⬝ᵥ (P *ᵥ x) = star x ⬝ᵥ x :=
  lifted_inner P hP x x

theorem eigen_energy_ge [IsOrderedRing K] (A : Matrix m m K) (lam e : K) (x : m → K)
    (hA : (A - lam • (1 : Matrix m m K)).PosSemidef)
    (hx : A *ᵥ x = e • x) (hn : star x ⬝ᵥ x = 1) : lam ≤ e := by
  have h := hA.dotProduct_mulVec_nonneg x
  rw [sub_mulVec, smul_mulVec, one_mulVec, hx, dotProduct_sub, dotProduct_smul, dotProduct_smul, hn] at h
  simpa only [smul_eq_mul, mul_one, sub_nonneg] using h

/-- **the reported energy is variational and is the energy of the returned state**: with `λ` a lower
    bound of `H`, `P` the environment isometry, `(e, x)` a normalised eigenpair of the effective
    Hamiltonian (what every local solver — dense, Davidson, ARPACK — returns), the reported `e`
    satisfies `λ ≤ e`, the returned state `ψ = P x` is normalised and `⟨ψ|H|ψ⟩ = e`.
    (The L2 tie checks `PᴴP = 1` on the real tensors and `e = ⟨ψ|H|ψ⟩/⟨ψ|ψ⟩` on the real output.) -/
theorem reported_energy_variational [IsOrderedRing K] (H : Matrix n n K) (P : Matrix n m K) (lam e : K)
    (x : m → K) (hP : Pᴴ * P = 1) (hH : (H - lam • (1 : Matrix n n K)).PosSemidef)
    (hx : (Pᴴ * H * P) *ᵥ x = e • x) (hn : star x ⬝ᵥ x = 1) :
    lam ≤ e ∧ star (P *ᵥ x) ⬝ᵥ (P *ᵥ x) = 1 ∧ star (P *ᵥ x) ⬝ᵥ (H *ᵥ (P *ᵥ x)) = e := by
  refine ⟨eigen_energy_ge _ lam e x (compression_lower_bound H P lam hP hH) hx hn, ?_, ?_⟩
  · rw [lifted_norm P hP, hn]
  · rw [lifted_rayleigh, hx, dotProduct_smul, hn]
    exact mul_one e

/-- the same through two nested compressions (a sweep with a smaller bond dimension inside a larger
    variational space): the energy found in the smaller space is still bounded below by `λ` -/
theorem reported_energy_nested [IsOrderedRing K] {k : Type} [Fintype k] [DecidableEq k] (H : Matrix n n K)
    (P : Matrix n m K) (P2 : Matrix m k K) (lam e : K) (x : k → K) (hP : Pᴴ * P = 1) (hP2 : P2ᴴ * P2 = 1)
    (hH : (H - lam • (1 : Matrix n n K)).PosSemidef)
    (hx : (P2ᴴ * (Pᴴ * H * P) * P2) *ᵥ x = e • x) (hn : star x ⬝ᵥ x = 1) : lam ≤ e :=
  eigen_energy_ge _ lam e x (compression_nested H P P2 lam hP hP2 hH) hx hn

/-- every one of the reported roots is bounded below by `λ` -/
theorem all_roots_ge [IsOrderedRing K] {ι : Type} (H : Matrix n n K) (P : Matrix n m K) (lam : K)
    (e : ι → K) (x : ι → m → K) (hP : Pᴴ * P = 1) (hH : (H - lam • (1 : Matrix n n K)).PosSemidef)
    (hx : ∀ i, (Pᴴ * H * P) *ᵥ x i = e i • x i) (hn : ∀ i, star (x i) ⬝ᵥ x i = 1) : ∀ i, lam ≤ e i :=
  fun i => (reported_energy_variational H P lam (e i) (x i) hP hH (hx i) (hn i)).1

/-- spectral mapping for the shifted square: an eigenvector of `H` with eigenvalue `μ` is an
    eigenvector of `(H − ω)²` with eigenvalue `(μ − ω)²`; the minimum `0` of the targeted functional
    is attained exactly at eigenvalue `ω`, and the targeted search orders eigenpairs by `(μ − ω)²` -/
theorem omega_square_eigen (H : Matrix n n K) (v : n → K) (mu om : K) (h : H *ᵥ v = mu • v) :
    ((H - om • (1 : Matrix n n K)) * (H - om • (1 : Matrix n n K))) *ᵥ v = ((mu - om) * (mu - om)) • v := by
  have h1 : (H - om • (1 : Matrix n n K)) *ᵥ v = (mu - om) • v := by
    rw [sub_mulVec, smul_mulVec, one_mulVec, h, sub_smul]
  rw [← mulVec_mulVec, h1, mulVec_smul, h1, smul_smul]

-- non-vacuity: a concrete instance (H = [[2,1],[1,2]] ≥ 1, P = first basis vector, eigenpair (2, 1))
-- meets every hypothesis of `reported_energy_variational`
private def exH : Matrix (Fin 2) (Fin 2) ℤ := !![2, 1; 1, 2]
private def exP : Matrix (Fin 2) (Fin 1) ℤ := !![1; 0]
private def exV : Matrix (Fin 1) (Fin 2) ℤ := !![1, 1]
private def exX : Fin 1 → ℤ := fun _ => 1
example : (1 : ℤ) ≤ 2 := by
  have hH : (exH - (1 : ℤ) • (1 : Matrix (Fin 2) (Fin 2) ℤ)).PosSemidef := by
    have h := Matrix.posSemidef_conjTranspose_mul_self exV
    have e : exVᴴ * exV = exH - (1 : ℤ) • (1 : Matrix (Fin 2) (Fin 2) ℤ) := by decide +kernel
    rwa [e] at h
  have hP : exPᴴ * exP = 1 := by decide +kernel
  have hx : (exPᴴ * exH * exP) *ᵥ exX = (2 : ℤ) • exX := by decide +kernel
  have hn : star exX ⬝ᵥ exX = 1 := by decide +kernel
  exact (reported_energy_variational exH exP 1 2 exX hP hH hx hn).1

end RenoVerif.Variational
