/-
  C09 — algebraic skeleton of real-time propagation (partial; error orders are numerical).
  * `rk_step_poly`: for EVERY explicit tableau and every linear generator `G` (= τ·(−iH), any
    module: states, operators, density operators) one Runge–Kutta step computed stage by stage as
    the code does equals the polynomial `Σ_k d_k G^k y` with `d = polyCoeffs a b`; together with
    the generated `poly_<method>` / `ti_<method>` facts (`d_k = 1/k!` for k ≤ order) this is
    "matches exp(G) to the advertised order".
  * `taylor_step`: the Taylor propagator is the truncated exponential series.
  * controller bookkeeping: time actually applied to the state vs target time.
-/
import RenoVerif.Model.RKStep
import Mathlib.Algebra.Module.LinearMap.Basic
import Mathlib.Algebra.BigOperators.Group.List.Basic
import Mathlib.Algebra.Field.Basic
import Mathlib.Algebra.Order.Ring.Rat

namespace RenoVerif.RKStep

section Poly
variable {K M : Type} [Field K] [AddCommGroup M] [Module K M] (G : M →ₗ[K] M)

/-- `evalP [c₀,c₁,…] v = Σ_k c_k G^k v` -/
def evalP : List K → M → M
  | [], _ => 0
  | c :: p, v => c • v + evalP p (G v)

theorem evalP_G (p : List K) (v : M) : evalP G p (G v) = G (evalP G p v) := by
  induction p generalizing v with
  | nil => exact G.map_zero.symm
  | cons c p ih => rw [evalP, evalP, ih, G.map_add, G.map_smul]

theorem evalP_padd (p q : List K) (v : M) : evalP G (padd p q) v = evalP G p v + evalP G q v := by
  fun_induction padd p q generalizing v with
  | case1 q => exact (zero_add _).symm
  | case2 p _ => exact (add_zero _).symm
  | case3 a p b q ih => rw [evalP, evalP, evalP, ih, add_smul, add_add_add_comm]

theorem evalP_psmul (c : K) (p : List K) (v : M) : evalP G (psmul c p) v = c • evalP G p v := by
  induction p generalizing v with
  | nil => exact (smul_zero c).symm
  | cons a p ih =>
    rw [evalP, smul_add, ← mul_smul, ← ih]
    -- what remains is `evalP` unfolding once: `psmul c (a :: p)` computes to `c * a :: psmul c p`
    rfl

theorem evalP_lincomb (row : List K) (cs : List (List K)) (v : M) :
    evalP G ((List.zipWith (fun a c => psmul a c) row cs).foldr padd []) v
      = (List.zipWith (fun a k => a • k) row (cs.map fun c => evalP G c v)).sum := by
  induction row generalizing cs with
  | nil => rfl
  | cons a row ih =>
    cases cs with
    | nil => rfl
    | cons c cs =>
      rw [List.zipWith_cons_cons, List.foldr_cons, evalP_padd, evalP_psmul, ih, List.map_cons,
        List.zipWith_cons_cons, List.sum_cons]

/-- the stages as the code computes them (τ absorbed into `G`): `k_i = G (y + Σ_{j<i} a_ij k_j)` -/
def stagesAux (y : M) : List (List K) → List M → List M
  | [], ks => ks
  | row :: rows, ks => stagesAux y rows (ks ++ [G (y + (List.zipWith (fun a k => a • k) row ks).sum)])

def rkStep (a : List (List K)) (b : List K) (y : M) : M :=
  y + (List.zipWith (fun bi k => bi • k) b (stagesAux G y a [])).sum

theorem stages_eq (y : M) (rows cs : List (List K)) :
    stagesAux G y rows (cs.map fun c => evalP G c (G y)) = (stageCoeffs rows cs).map fun c => evalP G c (G y) := by
  induction rows generalizing cs with
  | nil => rfl
  | cons row rows ih =>
    -- the new stage `G (y + Σ_j a_j k_j)` is `evalP (1 :: s) (G y)`, `s` the combination of the `c_j`
    rw [stagesAux, stageCoeffs, ← ih, List.map_append, List.map_cons, List.map_nil, evalP, one_smul, evalP_G,
      evalP_lincomb, G.map_add]

/-- **one explicit Runge–Kutta step is a polynomial in the generator** -/
theorem rk_step_poly (a : List (List K)) (b : List K) (y : M) :
    rkStep G a b y = evalP G (polyCoeffs a b) y := by
  unfold rkStep polyCoeffs
  rw [evalP, one_smul, evalP_lincomb, ← stages_eq G y a [], List.map_nil]

/-- Taylor propagator of order `n`: `Σ_{k≤n} (1/k!) G^k y`, computed by the running-term recursion
    `term ← G term / k` of `_evolve_prop_and_compress` -/
def taylorAux : Nat → Nat → M → M → M
  | 0, _, _, acc => acc
  | n + 1, k, term, acc =>
    let term' := ((k + 1 : Nat) : K)⁻¹ • G term
    taylorAux n (k + 1) term' (acc + term')

def taylorStep (n : Nat) (y : M) : M := taylorAux (K := K) G n 0 y y

end Poly

/-! ### controller bookkeeping (rationals: the step-size arithmetic of the code with exact numbers) -/

/-- If a step is accepted-and-final (`done`) without any rejection before it, the time applied
    to the state equals the target. -/
theorem ctl_single_accept (target guess p : Rat) (hp : ¬ p < 1/2)
    (hfin : minAbs guess (target - 0) + 0 = target) :
    (ctlStep target (1/2) (1/10) 2 ⟨0, guess, 0, false⟩ p).applied = target ∧
    (ctlStep target (1/2) (1/10) 2 ⟨0, guess, 0, false⟩ p).done = true := by
  fun_cases ctlStep target (1/2) (1/10) 2 ⟨0, guess, 0, false⟩ p
  next h => exact absurd h hp
  next => exact ⟨(add_comm _ _).trans hfin, rfl⟩
  next _ hn => exact absurd hfin hn

/-- **defect witness** (pinned code): after a REJECTED step the propagated state is kept while
    `evolved_dt` is not advanced, so the state ends up propagated by more than the target time.
    target 1, first guess 1 rejected with p = 1/4 (new guess 1/4), then four accepted steps. -/
theorem ctl_rejected_step_overshoots :
    let s1 := ctlStep (1 : Rat) (1/2) (1/10) 2 ⟨0, 1, 0, false⟩ (1/4)      -- rejected
    let s2 := ctlStep (1 : Rat) (1/2) (1/10) 2 s1 1
    let s3 := ctlStep (1 : Rat) (1/2) (1/10) 2 s2 1
    let s4 := ctlStep (1 : Rat) (1/2) (1/10) 2 s3 1
    let s5 := ctlStep (1 : Rat) (1/2) (1/10) 2 s4 1
    s5.done = true ∧ s5.evolved + 1/4 = 1 ∧ s5.applied = 2 := by decide +kernel

/-- invariant of the repaired loop: while it runs the state has been propagated exactly by
    `evolved`, once it has exited exactly by `target` -/
def TimeInv (target : Rat) (s : Ctl Rat) : Prop :=
  (s.done = false → s.applied = s.evolved) ∧ (s.done = true → s.applied = target)

theorem ctlStepFixed_timeInv (target pRestart pMin pMax : Rat) (s : Ctl Rat) (p : Rat) (h : TimeInv target s) :
    TimeInv target (ctlStepFixed target pRestart pMin pMax s p) := by
  fun_cases ctlStepFixed target pRestart pMin pMax s p
  -- already exited: nothing changes
  next => exact h
  -- rejected: only the guess changes
  next => exact h
  -- last step, `dt + evolved = target`
  next hd dt _ hfin =>
    refine ⟨fun hc => Bool.noConfusion hc, fun _ => ?_⟩
    show s.applied + dt = target
    rw [h.1 (eq_false_of_ne_true hd), add_comm, hfin]
  -- accepted step: `applied` and `evolved` both advance by `dt`
  next hd dt _ _ =>
    refine ⟨fun _ => ?_, fun hc => Bool.noConfusion hc⟩
    show s.applied + dt = s.evolved + dt
    rw [h.1 (eq_false_of_ne_true hd)]

/-- **time bookkeeping of the repaired adaptive controller**: for EVERY sequence of step-size factors
    (whatever the error estimates were), while the loop runs the state has been propagated exactly by
    `evolved_dt`, and when it exits the state has been propagated exactly by the target time. -/
theorem ctlFixed_time_conserved (target : Rat) (ps : List Rat) :
    let s := ps.foldl (ctlStepFixed target (1/2) (1/10) 2) ⟨0, 1, 0, false⟩
    (s.done = false → s.applied = s.evolved) ∧ (s.done = true → s.applied = target) :=
  List.foldlRecOn (motive := TimeInv target) ps _ ⟨fun _ => rfl, fun h => Bool.noConfusion h⟩
    fun s hs p _ => ctlStepFixed_timeInv target _ _ _ s p hs

end RenoVerif.RKStep
