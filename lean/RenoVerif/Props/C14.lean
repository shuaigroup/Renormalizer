/-
  C14 — property theorems for the crash-safety part: for every initial directory (everything any
  sequence of earlier crashes, of this or of the earlier rename-based protocol, can leave behind), every
  number of steps and every crash instant.

  History: on the pinned tree `dump_dict` moved F to F.bak before writing (and deleted an existing backup
  first).  The model of that protocol satisfied the property only after the first completed dump of a job
  object; the excluded point was run on the real code: a job restarted into ⟨partial F, complete B⟩ destroys the
  complete backup during its first dump (defect D40, `restart_first_dump_unprotected` of the old model).
  The code was repaired (write a temporary file, `os.replace`); the model below is the repaired protocol and
  the theorems hold at full strength, the first dump of a restarted job included.
-/
import RenoVerif.Model.DumpProto

namespace RenoVerif.Dump

/-- whatever the directory looked like before, a completed dump leaves `F = complete k`, no backup, no temporary -/
theorem dumpFinal_eq (k : Nat) (d : Dir) : dumpFinal k d = ⟨.complete k, .absent, .absent⟩ := by
  cases d with | mk f b t => cases b <;> rfl

theorem dumpTrace_eq (k : Nat) (d : Dir) :
    dumpTrace k d =
      d :: { d with t := .part k } :: { d with t := .complete k } :: ⟨.complete k, d.b, .absent⟩ ::
        if d.b.exists then [⟨.complete k, .absent, .absent⟩] else [] := by
  unfold dumpTrace dumpOps
  cases d.b.exists <;> rfl

theorem good_of_complete {j k : Nat} (hjk : j ≤ k) (b t : FileSt) : (Dir.mk (.complete k) b t).good j = true := by
  simp only [Dir.good, FileSt.goodFor, decide_eq_true hjk, Bool.true_or]

/-- **no dump ever loses the newest complete result**: if a complete result file of step ≥ j exists when the dump of
    step k ≥ j starts, every visible state of that dump holds a complete result file of step ≥ j -/
theorem dump_preserves (k j : Nat) (hjk : j ≤ k) (d : Dir) (h : d.good j = true) :
    ∀ d' ∈ dumpTrace k d, d'.good j = true := by
  intro d' hd'
  simp only [dumpTrace_eq, List.mem_cons, List.mem_ite_nil_right, List.not_mem_nil, or_false] at hd'
  -- until the replace only T changes, which `good` does not look at; from the replace on F is complete of step k
  rcases hd' with rfl | rfl | rfl | rfl | ⟨-, rfl⟩
  · exact h
  · exact h
  · exact h
  · exact good_of_complete hjk _ _
  · exact good_of_complete hjk _ _

/-- in particular a result left by an earlier run survives the first dump of a restarted job -/
theorem dump_preserves_any (k : Nat) (d : Dir) (h : d.hasComplete = true) :
    ∀ d' ∈ dumpTrace k d, d'.hasComplete = true :=
  dump_preserves k 0 (Nat.zero_le k) d h

/-- during the dump of step `k+1` that starts from the directory left by the completed dump of step `k`, every
    visible directory state holds a complete file of step ≥ k -/
theorem dump_step_safe (k : Nat) :
    ∀ d' ∈ dumpTrace (k+1) ⟨.complete k, .absent, .absent⟩, d'.good k = true :=
  dump_preserves (k+1) k (Nat.le_succ k) _ (good_of_complete (Nat.le_refl k) _ _)

theorem forall_mem_runTrace_succ {P : Nat × Dir → Prop} {n k : Nat} {d : Dir} :
    (∀ p ∈ runTrace (n+1) k d, P p) ↔
      (∀ d' ∈ dumpTrace k d, P (k, d')) ∧ ∀ p ∈ runTrace n (k+1) ⟨.complete k, .absent, .absent⟩, P p := by
  rw [runTrace, dumpFinal_eq, List.forall_mem_append, List.forall_mem_map]

theorem runTrace_safe (n k : Nat) :
    ∀ p ∈ runTrace n (k+1) ⟨.complete k, .absent, .absent⟩, p.2.good (p.1 - 1) = true := by
  induction n generalizing k with
  | zero => intro p h; cases h
  | succ n ih => exact forall_mem_runTrace_succ.mpr ⟨dump_step_safe k, ih (k+1)⟩

/-- the step index of every state of a run lies in the dumped range -/
theorem runTrace_steps (n k : Nat) (d : Dir) : ∀ p ∈ runTrace n k d, k ≤ p.1 ∧ p.1 < k + n := by
  induction n generalizing k d with
  | zero => intro p h; cases h
  | succ n ih =>
    refine forall_mem_runTrace_succ.mpr ⟨fun _ _ => by omega, fun p h => ?_⟩
    have := ih (k+1) _ p h
    omega

/-- **Crash safety (full strength).**  For EVERY initial directory `d0`, every number `n` of dumps of a job whose
    first dump has step `k0`, and every instant:
    (a) during the first dump, a complete result file that was in the directory (left by an earlier run) is still there;
    (b) during every later dump of step `k > k0`, a complete result file of step `k` or `k−1` of this job is there. -/
theorem dump_crash_safe (d0 : Dir) (n k0 : Nat) :
    ∀ p ∈ runTrace (n+1) k0 d0,
      (p.1 = k0 → d0.hasComplete = true → p.2.hasComplete = true) ∧ (k0 < p.1 → p.2.good (p.1 - 1) = true) := by
  refine forall_mem_runTrace_succ.mpr ⟨fun d' hd' => ?_, fun p h => ?_⟩
  · exact ⟨fun _ hc => dump_preserves_any k0 d0 hc d' hd', fun hk => absurd hk (Nat.lt_irrefl k0)⟩
  · have := (runTrace_steps n (k0+1) _ p h).1
    exact ⟨fun hk => by omega, fun _ => runTrace_safe n k0 p h⟩

/-- the temporary file is never relied upon: a directory whose only complete archive is a stale temporary file is
    (rightly) not counted as holding a result -/
example : (⟨.part 3, .absent, .complete 9⟩ : Dir).hasComplete = false := by decide +kernel

-- non-vacuity: a concrete 3-step run from the directory a crash of the OLD protocol leaves behind
example : (runTrace 3 1 ⟨.part 7, .complete 6, .absent⟩).length = 13 := by decide +kernel
example : ((runTrace 3 1 ⟨.part 7, .complete 6, .absent⟩).all fun p => p.2.hasComplete) = true := by decide +kernel
example : ((runTrace 3 1 ⟨.part 7, .complete 6, .absent⟩).filter fun p => 1 < p.1).all
    (fun p => p.2.good (p.1 - 1)) = true := by decide +kernel
example : dumpTrace 2 ⟨.complete 1, .absent, .absent⟩ =
    [⟨.complete 1, .absent, .absent⟩, ⟨.complete 1, .absent, .part 2⟩, ⟨.complete 1, .absent, .complete 2⟩,
     ⟨.complete 2, .absent, .absent⟩] := by decide +kernel
example : dumpTrace 1 ⟨.part 7, .complete 6, .part 7⟩ =
    [⟨.part 7, .complete 6, .part 7⟩, ⟨.part 7, .complete 6, .part 1⟩, ⟨.part 7, .complete 6, .complete 1⟩,
     ⟨.complete 1, .complete 6, .absent⟩, ⟨.complete 1, .absent, .absent⟩] := by decide +kernel

end RenoVerif.Dump
