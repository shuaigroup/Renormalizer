import RenoVerif.Model.GaussRat
import RenoVerif.Driver.Util
import RenoVerif.Lemmas.GaussRatField
import RenoVerif.Lemmas.List
import RenoVerif.Model.RKTree
import RenoVerif.Props.C19
import RenoVerif.Gen.RK
import RenoVerif.Gen.RKProps
import RenoVerif.Model.Cover
import RenoVerif.Props.C20
import RenoVerif.Model.DumpProto
import RenoVerif.Props.C14
import RenoVerif.Model.OpAlg
import RenoVerif.Props.C15
import RenoVerif.Model.FormalSum
import RenoVerif.Model.SymMpo
import RenoVerif.Lemmas.FormalSum
import RenoVerif.Props.C01
import RenoVerif.Model.Chain
import RenoVerif.Lemmas.Chain
import RenoVerif.Lemmas.ChainDot
import RenoVerif.Props.C03
import RenoVerif.Props.C04
import RenoVerif.Model.Trunc
import RenoVerif.Props.C05
import RenoVerif.Lemmas.ChainQN
import RenoVerif.Model.QN
import RenoVerif.Props.C06
import RenoVerif.Model.EnvCache
import RenoVerif.Props.C07
import RenoVerif.Props.C08
import RenoVerif.Model.RKStep
import RenoVerif.Props.C09
import RenoVerif.Props.C09Conserve
import RenoVerif.Model.JW
import RenoVerif.Props.C17
import RenoVerif.Props.C17CAR
import RenoVerif.Props.C17Tables
import RenoVerif.Model.SHO
import RenoVerif.Props.C16
import RenoVerif.Props.C16Spin
import RenoVerif.Props.C18
import RenoVerif.Model.SymTree
import RenoVerif.Props.C02
import RenoVerif.Props.C02Auto
import RenoVerif.Model.Effects
import RenoVerif.Props.C13
import RenoVerif.Props.C10
import RenoVerif.Props.C11
import RenoVerif.Props.C12
import RenoVerif.Model.TreeSweep
import RenoVerif.Props.C06Tree
import RenoVerif.Props.C05Nested
import RenoVerif.Props.C05Optimal
import RenoVerif.Props.C07Rdm
import RenoVerif.Props.C18Krylov
import RenoVerif.Props.C11Tree
import RenoVerif.Props.C11Apply
